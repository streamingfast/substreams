import Model.Policy
/-!
The text codecs of `Model/Policy.lean`, for layer B of C02.  Decimal text of naturals and integers parses
back (`parseNat_renderNat`, `parseInt_renderInt`); `NewFromString (d.String())` is `d` up to trailing zeros
(`Dec.parse_render`, from the shape of the rendering, `render_shape`, and the parser on such a shape,
`parse_signed`); decimal addition, comparison and equality as numbers are read off the coefficients at a
common scale (`Dec.rescaleUp_mul`, `Dec.add_rescaleUp`, `Dec.eqv_iff`).  Core Lean only.
-/
namespace SV

theorem digit_toNat (d : Nat) (h : d < 10) : (c0 + UInt8.ofNat d).toNat = 48 + d := by
  have : ∀ d : Fin 10, (c0 + UInt8.ofNat d.val).toNat = 48 + d.val := by decide
  exact this ⟨d, h⟩

theorem digit_isDigit (d : Nat) (h : d < 10) : isDigit (c0 + UInt8.ofNat d) = true := by
  have : ∀ d : Fin 10, isDigit (c0 + UInt8.ofNat d.val) = true := by decide
  exact this ⟨d, h⟩

/-- little-endian value of a digit string -/
def valRev (l : List UInt8) : Nat := l.foldr (fun c acc => acc * 10 + (c.toNat - 48)) 0

theorem digitsRev_spec : ∀ (fuel n : Nat), n < fuel →
    digitsRev fuel n ≠ [] ∧ (digitsRev fuel n).all isDigit = true ∧ valRev (digitsRev fuel n) = n := by
  intro fuel
  induction fuel with
  | zero => intro n h; omega
  | succ fuel ih =>
    intro n h
    unfold digitsRev
    by_cases h10 : n < 10
    · simp only [h10, ↓reduceIte]
      refine ⟨List.cons_ne_nil _ _, by rw [List.all_cons, digit_isDigit n h10]; rfl, ?_⟩
      show 0 * 10 + ((c0 + UInt8.ofNat n).toNat - 48) = n
      rw [digit_toNat n h10, Nat.zero_mul, Nat.zero_add, Nat.add_sub_cancel_left]
    · simp only [h10, ↓reduceIte]
      have hlt : n / 10 < fuel := by omega
      obtain ⟨_, i2, i3⟩ := ih (n / 10) hlt
      have hm : n % 10 < 10 := Nat.mod_lt _ (by decide)
      refine ⟨List.cons_ne_nil _ _, ?_, ?_⟩
      · rw [List.all_cons, digit_isDigit _ hm, i2]; rfl
      · show valRev (digitsRev fuel (n / 10)) * 10 + ((c0 + UInt8.ofNat (n % 10)).toNat - 48) = n
        rw [i3, digit_toNat _ hm, Nat.add_sub_cancel_left, Nat.mul_comm]
        exact Nat.div_add_mod n 10

theorem renderNat_ne_nil (n : Nat) : renderNat n ≠ [] := by
  unfold renderNat
  have := (digitsRev_spec (n + 1) n (by omega)).1
  simpa using this

theorem renderNat_all_digit (n : Nat) : (renderNat n).all isDigit = true := by
  unfold renderNat
  rw [List.all_reverse]
  exact (digitsRev_spec (n + 1) n (by omega)).2.1

/-- `strconv.ParseUint ∘ FormatUint = id` -/
theorem parseNat_renderNat (n : Nat) : parseNat (renderNat n) = some n := by
  unfold parseNat
  simp only [renderNat_ne_nil, ↓reduceIte, renderNat_all_digit]
  unfold renderNat
  rw [List.foldl_reverse]
  exact congrArg some (digitsRev_spec (n + 1) n (by omega)).2.2

theorem renderNat_head_digit (n : Nat) : ∃ c rest, renderNat n = c :: rest ∧ isDigit c = true := by
  cases h : renderNat n with
  | nil => exact absurd h (renderNat_ne_nil n)
  | cons c rest =>
    refine ⟨c, rest, rfl, ?_⟩
    have := renderNat_all_digit n
    rw [h] at this
    simp only [List.all_cons, Bool.and_eq_true] at this
    exact this.1

/-- `big.Int.SetString ∘ String = id` (and `ParseInt ∘ FormatInt` before the range check) -/
theorem parseInt_renderInt (i : Int) : parseInt (renderInt i) = some i := by
  unfold renderInt
  by_cases hneg : i < 0
  · simp only [hneg, ↓reduceIte, parseInt, parseNat_renderNat]
    simp only [Option.bind_eq_bind, Option.bind_some, Option.pure_def, Option.map_some, Option.some.injEq]
    omega
  · simp only [hneg, ↓reduceIte]
    obtain ⟨c, rest, hc, hd⟩ := renderNat_head_digit i.natAbs
    have h1 : c ≠ cMinus := by
      intro hh; subst hh; revert hd; decide
    have h2 : c ≠ cPlus := by
      intro hh; subst hh; revert hd; decide
    have hp := parseNat_renderNat i.natAbs
    rw [hc] at hp ⊢
    simp only [parseInt, h1, h2, ↓reduceIte, hp]
    simp only [Option.bind_eq_bind, Option.bind_some, Option.pure_def, Option.map_some, Option.some.injEq]
    omega

/-- the values of Go's `int64` -/
def InRange64 (i : Int) : Prop := -two63 ≤ i ∧ i < two63

/-- `strconv.ParseInt(FormatInt(i), 10, 64) = i` for `i` in the int64 range -/
theorem parseInt64_renderInt (i : Int) (h : InRange64 i) : parseInt64 (renderInt i) = some i := by
  unfold parseInt64
  rw [parseInt_renderInt]
  simp only [h.1, h.2, and_self, ↓reduceIte]

theorem wrap64_inRange (x : Int) : InRange64 (wrap64 x) := by
  unfold InRange64 wrap64 two63 two64; omega

theorem wrap64_id (x : Int) (h : InRange64 x) : wrap64 x = x := by
  unfold InRange64 wrap64 two63 two64 at *; omega

theorem argInt64_inRange (v : Bytes) : InRange64 (argInt64 v) := wrap64_inRange _

theorem renderInt_ne_nil (i : Int) : renderInt i ≠ [] := by
  unfold renderInt
  split
  · simp
  · exact renderNat_ne_nil _

/-! ### shopspring/decimal: `NewFromString (d.String())` is `d` up to trailing zeros -/

/-- big-endian value of a digit string -/
def valBE (b : Bytes) : Nat := b.foldl (fun acc c => acc * 10 + (c.toNat - 48)) 0

theorem valBE_foldl (b : Bytes) : ∀ acc : Nat,
    b.foldl (fun acc c => acc * 10 + (c.toNat - 48)) acc = acc * 10 ^ b.length + valBE b := by
  induction b with
  | nil => intro acc; simp [valBE]
  | cons c rest ih =>
    intro acc
    simp only [List.foldl_cons, valBE, List.length_cons]
    rw [ih, ih (0 * 10 + (c.toNat - 48))]
    rw [Nat.pow_succ]
    simp only [Nat.zero_mul, Nat.zero_add, Nat.add_mul]
    rw [Nat.mul_assoc, Nat.mul_comm 10]
    omega

theorem valBE_append (a b : Bytes) : valBE (a ++ b) = valBE a * 10 ^ b.length + valBE b := by
  unfold valBE
  rw [List.foldl_append, valBE_foldl]
  rfl

theorem parseNat_eq {b : Bytes} (hne : b ≠ []) (hd : b.all isDigit = true) : parseNat b = some (valBE b) := by
  unfold parseNat
  simp only [hne, ↓reduceIte, hd]
  rfl

theorem valBE_renderNat (n : Nat) : valBE (renderNat n) = n := by
  have := parseNat_renderNat n
  rw [parseNat_eq (renderNat_ne_nil n) (renderNat_all_digit n)] at this
  exact Option.some.inj this

theorem valBE_zeros (n : Nat) : valBE (List.replicate n c0) = 0 := by
  induction n with
  | zero => rfl
  | succ n ih =>
    rw [List.replicate_succ, ← List.singleton_append, valBE_append, ih]
    simp [valBE, c0]

theorem digit_ne_dot {c : UInt8} (h : isDigit c = true) : c ≠ cDot := by
  intro hh; subst hh; revert h; decide

theorem takeWhile_split (p : UInt8 → Bool) (sep : UInt8) (hs : p sep = false) (r : Bytes) :
    ∀ a : Bytes, (∀ c ∈ a, p c = true) →
    (a ++ sep :: r).takeWhile p = a ∧ (a ++ sep :: r).dropWhile p = sep :: r ∧
    a.takeWhile p = a ∧ a.dropWhile p = [] := by
  intro a
  induction a with
  | nil => intro _; simp [hs]
  | cons c rest ih =>
    intro ha
    have hc := ha c List.mem_cons_self
    obtain ⟨i1, i2, i3, i4⟩ := ih (fun x hx => ha x (List.mem_cons_of_mem _ hx))
    simp only [List.cons_append, List.takeWhile_cons, List.dropWhile_cons, hc, ↓reduceIte, i1, i2, i3, i4,
      and_self]

/-- the sign handling of `Dec.parse` -/
def signSplit (b : Bytes) : Bool × Bytes :=
  match b with
  | c :: rest => if c = cMinus then (true, rest) else if c = cPlus then (false, rest) else (false, b)
  | [] => (false, [])

/-- `Dec.parse` after the sign -/
def parseBody (sign : Bool) (body : Bytes) : Option Dec :=
  let ip := body.takeWhile (· ≠ cDot)
  let rest := body.dropWhile (· ≠ cDot)
  let fp := rest.drop 1
  if fp.any (· = cDot) then none
  else
    match parseNat (ip ++ fp) with
    | none => none
    | some n => some ⟨if sign then - (n : Int) else (n : Int), fp.length⟩

theorem Dec.parse_eq (b : Bytes) : Dec.parse b = parseBody (signSplit b).1 (signSplit b).2 := by
  unfold Dec.parse signSplit parseBody
  rfl

theorem parseBody_number (sign : Bool) (ip fp' : Bytes) (h1 : ip ≠ []) (h2 : ip.all isDigit = true)
    (h3 : fp'.all isDigit = true) :
    parseBody sign (if fp' = [] then ip else ip ++ [cDot] ++ fp') =
      some ⟨if sign then -(valBE (ip ++ fp') : Int) else (valBE (ip ++ fp') : Int), fp'.length⟩ := by
  have hp : ∀ c ∈ ip, decide (c ≠ cDot) = true := by
    intro c hc
    have := digit_ne_dot (List.all_eq_true.1 h2 c hc)
    simpa using this
  have hs : decide (cDot ≠ cDot) = false := by simp
  obtain ⟨t1, t2, t3, t4⟩ := takeWhile_split (fun x => decide (x ≠ cDot)) cDot hs fp' ip hp
  have hany : fp'.any (fun x => decide (x = cDot)) = false := by
    rw [List.any_eq_false]
    intro c hc
    have := digit_ne_dot (List.all_eq_true.1 h3 c hc)
    simpa using this
  unfold parseBody
  by_cases hf : fp' = []
  · subst hf
    simp only [↓reduceIte, t3, t4, List.drop_nil, List.any_nil, Bool.false_eq_true, List.append_nil,
      parseNat_eq h1 h2, List.length_nil]
  · simp only [hf, ↓reduceIte, List.append_assoc, List.singleton_append, t1, t2, List.drop_one, List.tail_cons,
      hany, Bool.false_eq_true]
    have hne : ip ++ fp' ≠ [] := by simp [h1]
    have hd : (ip ++ fp').all isDigit = true := by simp [List.all_append, h2, h3]
    rw [parseNat_eq hne hd]

theorem parse_signed (neg : Bool) (ip fp' : Bytes) (h1 : ip ≠ []) (h2 : ip.all isDigit = true)
    (h3 : fp'.all isDigit = true) :
    Dec.parse (if neg then cMinus :: (if fp' = [] then ip else ip ++ [cDot] ++ fp')
               else (if fp' = [] then ip else ip ++ [cDot] ++ fp')) =
      some ⟨if neg then -(valBE (ip ++ fp') : Int) else (valBE (ip ++ fp') : Int), fp'.length⟩ := by
  rw [Dec.parse_eq]
  cases neg with
  | true =>
    simp only [↓reduceIte, signSplit]
    exact parseBody_number true ip fp' h1 h2 h3
  | false =>
    simp only [Bool.false_eq_true, ↓reduceIte]
    cases hip : ip with
    | nil => exact absurd hip h1
    | cons c rest =>
      have hc : isDigit c = true := by
        rw [hip] at h2
        simp only [List.all_cons, Bool.and_eq_true] at h2
        exact h2.1
      have hm : c ≠ cMinus := by intro hh; subst hh; revert hc; decide
      have hpl : c ≠ cPlus := by intro hh; subst hh; revert hc; decide
      have hsp : signSplit (if fp' = [] then c :: rest else c :: rest ++ [cDot] ++ fp') =
          (false, if fp' = [] then c :: rest else c :: rest ++ [cDot] ++ fp') := by
        split <;> simp [signSplit, hm, hpl]
      rw [hsp]
      have := parseBody_number false ip fp' h1 h2 h3
      rw [hip] at this
      simpa using this

theorem takeWhile_eq_replicate (c : UInt8) : ∀ l : Bytes,
    l.takeWhile (fun x => decide (x = c)) = List.replicate (l.takeWhile (fun x => decide (x = c))).length c := by
  intro l
  induction l with
  | nil => rfl
  | cons a rest ih =>
    rw [List.takeWhile_cons]
    by_cases h : a = c
    · subst h
      simp only [decide_true, ↓reduceIte, List.length_cons, List.replicate_succ]
      rw [← ih]
    · simp [h]

theorem dropTrailingZeros_spec (l : Bytes) :
    ∃ z, l = Dec.dropTrailingZeros l ++ List.replicate z c0 := by
  unfold Dec.dropTrailingZeros
  refine ⟨(l.reverse.takeWhile (fun x => decide (x = c0))).length, ?_⟩
  have h := List.takeWhile_append_dropWhile (p := fun x => decide (x = c0)) (l := l.reverse)
  have h2 : l = (l.reverse.dropWhile (fun x => decide (x = c0))).reverse ++
      (l.reverse.takeWhile (fun x => decide (x = c0))).reverse := by
    rw [← List.reverse_append, h, List.reverse_reverse]
  rw [takeWhile_eq_replicate c0 l.reverse, List.reverse_replicate] at h2
  simpa using h2

theorem all_of_sublist {l l' : Bytes} (h : l.all isDigit = true) (hs : l'.Sublist l) : l'.all isDigit = true := by
  rw [List.all_eq_true] at h ⊢
  intro x hx; exact h x (hs.subset hx)

/-- the integer and fraction digit strings `String()` splits the coefficient's digits into -/
theorem digits_split_spec (str : Bytes) (s : Nat) (hne : str ≠ []) (hd : str.all isDigit = true)
    (ipfp : Bytes × Bytes)
    (he : ipfp = if str.length > s then (str.take (str.length - s), str.drop (str.length - s))
      else ([c0], List.replicate (s - str.length) c0 ++ str)) :
    ipfp.1 ≠ [] ∧ ipfp.1.all isDigit = true ∧ ipfp.2.all isDigit = true ∧ ipfp.2.length = s ∧
    valBE (ipfp.1 ++ ipfp.2) = valBE str := by
  by_cases h : str.length > s
  · simp only [h, ↓reduceIte] at he
    rw [he]
    refine ⟨?_, all_of_sublist hd (List.take_sublist _ _), all_of_sublist hd (List.drop_sublist _ _), ?_, ?_⟩
    · intro hc
      rcases List.take_eq_nil_iff.1 hc with h0 | h0
      · exact Nat.sub_ne_zero_of_lt h h0
      · exact hne h0
    · rw [List.length_drop, Nat.sub_sub_self (Nat.le_of_lt h)]
    · rw [List.take_append_drop]
  · simp only [h, ↓reduceIte] at he
    rw [he]
    refine ⟨List.cons_ne_nil _ _, ?_, ?_, ?_, ?_⟩
    · show [c0].all isDigit = true
      decide
    · show (List.replicate (s - str.length) c0 ++ str).all isDigit = true
      rw [List.all_append, hd, Bool.and_true, List.all_eq_true]
      intro x hx
      rw [List.eq_of_mem_replicate hx]; decide
    · rw [List.length_append, List.length_replicate, Nat.sub_add_cancel (Nat.le_of_not_lt h)]
    · show valBE ([c0] ++ (List.replicate (s - str.length) c0 ++ str)) = valBE str
      rw [← List.append_assoc, valBE_append]
      have : [c0] ++ List.replicate (s - str.length) c0 = List.replicate (s - str.length + 1) c0 := by
        rw [List.replicate_succ]; rfl
      rw [this, valBE_zeros, Nat.zero_mul, Nat.zero_add]

/-- the shape of `d.String()`: sign, integer digits, trimmed fraction digits `fp'`, and the `z` zeros
that were trimmed -/
theorem render_shape (d : Dec) : ∃ (ip fp' : Bytes) (z : Nat),
    ip ≠ [] ∧ ip.all isDigit = true ∧ fp'.all isDigit = true ∧
    d.render = (if decide (d.coef < 0) then cMinus :: (if fp' = [] then ip else ip ++ [cDot] ++ fp')
                else (if fp' = [] then ip else ip ++ [cDot] ++ fp')) ∧
    fp'.length + z = d.scale ∧ valBE (ip ++ fp') * 10 ^ z = d.coef.natAbs := by
  by_cases hs : d.scale = 0
  · refine ⟨renderNat d.coef.natAbs, [], 0, renderNat_ne_nil _, renderNat_all_digit _, rfl, ?_, hs.symm, ?_⟩
    · simp only [Dec.render, hs, ↓reduceIte, renderInt, decide_eq_true_eq]
    · rw [List.append_nil, valBE_renderNat, Nat.pow_zero, Nat.mul_one]
  · have hstr := digits_split_spec (renderNat d.coef.natAbs) d.scale (renderNat_ne_nil _) (renderNat_all_digit _) _ rfl
    generalize hipfp : (if (renderNat d.coef.natAbs).length > d.scale then
        ((renderNat d.coef.natAbs).take ((renderNat d.coef.natAbs).length - d.scale),
         (renderNat d.coef.natAbs).drop ((renderNat d.coef.natAbs).length - d.scale))
      else ([c0], List.replicate (d.scale - (renderNat d.coef.natAbs).length) c0 ++ renderNat d.coef.natAbs)) = ipfp at hstr
    obtain ⟨ip, fp⟩ := ipfp
    obtain ⟨s1, s2, s3, s4, s5⟩ := hstr
    obtain ⟨z, hz⟩ := dropTrailingZeros_spec fp
    have hfp' : (Dec.dropTrailingZeros fp).all isDigit = true := by
      rw [hz, List.all_append, Bool.and_eq_true] at s3
      exact s3.1
    refine ⟨ip, Dec.dropTrailingZeros fp, z, s1, s2, hfp', ?_, ?_, ?_⟩
    · simp only [Dec.render, hs, ↓reduceIte, hipfp, decide_eq_true_eq]
    · have := congrArg List.length hz
      rw [List.length_append, List.length_replicate] at this
      rw [← this]; exact s4
    · dsimp only at s5
      rw [valBE_renderNat] at s5
      rw [← s5]
      generalize Dec.dropTrailingZeros fp = g at hz ⊢
      rw [hz, ← List.append_assoc, valBE_append (ip ++ g), valBE_zeros, List.length_replicate, Nat.add_zero]

/-- **`NewFromString(d.String())`** succeeds and gives `d` with `z ≥ 0` trailing zeros of the coefficient
removed: the same number, at a scale that is not larger. -/
theorem Dec.parse_render (d : Dec) : ∃ d' : Dec, Dec.parse d.render = some d' ∧ d'.scale ≤ d.scale ∧
    d.coef = d'.coef * (10 : Int) ^ (d.scale - d'.scale) := by
  obtain ⟨ip, fp', z, h1, h2, h3, h4, h5, h6⟩ := render_shape d
  rw [h4, parse_signed _ ip fp' h1 h2 h3]
  refine ⟨_, rfl, h5 ▸ Nat.le_add_right _ _, ?_⟩
  have hz : d.scale - fp'.length = z := by rw [← h5, Nat.add_sub_cancel_left]
  have h6' : ((valBE (ip ++ fp') : Int)) * (10 : Int) ^ z = (d.coef.natAbs : Int) := by
    rw [← h6, Int.natCast_mul, Int.natCast_pow]; rfl
  show d.coef = (if decide (d.coef < 0) = true then -(valBE (ip ++ fp') : Int) else (valBE (ip ++ fp') : Int)) *
    (10 : Int) ^ (d.scale - fp'.length)
  rw [hz]
  by_cases hneg : d.coef < 0
  · rw [decide_eq_true hneg, if_pos rfl, Int.neg_mul, h6', Int.ofNat_natAbs_of_nonpos (Int.le_of_lt hneg), Int.neg_neg]
  · rw [decide_eq_false hneg, if_neg (by decide), h6', Int.natAbs_of_nonneg (Int.not_lt.1 hneg)]

/-! ### bigdecimal values with at most 34 decimals, as integers (value × 10^34) -/

/-- the number `d` stands for, scaled by 10^34 (exact when `d.scale ≤ 34`) -/
def Dec.val34 (d : Dec) : Int := d.coef * (10 : Int) ^ (34 - d.scale)

/-- the typed value of a stored bigdecimal text with at most 34 decimals -/
def typedDec34 (b : Bytes) : Option Int :=
  match Dec.parse b with
  | some d => if d.scale ≤ 34 then some d.val34 else none
  | none => none

theorem Dec.ext' {x y : Dec} (hs : x.scale = y.scale) (hc : x.coef = y.coef) : x = y := by
  cases x; cases y; cases hs; cases hc; rfl

theorem Dec.rescaleUp_mul (d : Dec) {s s' : Nat} (h1 : d.scale ≤ s) (h2 : s ≤ s') :
    (d.rescaleUp s).coef * (10 : Int) ^ (s' - s) = (d.rescaleUp s').coef := by
  unfold Dec.rescaleUp
  rw [Int.mul_assoc, ← Int.pow_add, Nat.add_comm, Nat.sub_add_sub_cancel h2 h1]

theorem Dec.add_rescaleUp (a b : Dec) {s : Nat} (ha : a.scale ≤ s) (hb : b.scale ≤ s) :
    ((a.add b).rescaleUp s).coef = (a.rescaleUp s).coef + (b.rescaleUp s).coef := by
  have hS : max a.scale b.scale ≤ s := Nat.max_le.2 ⟨ha, hb⟩
  rw [← Dec.rescaleUp_mul a (Nat.le_max_left _ _) hS, ← Dec.rescaleUp_mul b (Nat.le_max_right _ _) hS,
    ← Int.add_mul]
  rfl

theorem Dec.val34_add (a b : Dec) (ha : a.scale ≤ 34) (hb : b.scale ≤ 34) :
    (a.add b).scale ≤ 34 ∧ (a.add b).val34 = a.val34 + b.val34 :=
  ⟨Nat.max_le.2 ⟨ha, hb⟩, Dec.add_rescaleUp a b ha hb⟩

theorem Dec.cmp_gt (a b : Dec) (ha : a.scale ≤ 34) (hb : b.scale ≤ 34) :
    a.cmp b = .gt ↔ b.val34 < a.val34 := by
  have hS : max a.scale b.scale ≤ 34 := Nat.max_le.2 ⟨ha, hb⟩
  have hpos : (0 : Int) < (10 : Int) ^ (34 - max a.scale b.scale) := Int.pow_pos (by decide)
  show compare _ _ = .gt ↔ (b.rescaleUp 34).coef < (a.rescaleUp 34).coef
  rw [Int.compare_eq_gt, ← Dec.rescaleUp_mul a (Nat.le_max_left _ _) hS,
    ← Dec.rescaleUp_mul b (Nat.le_max_right _ _) hS]
  exact ⟨fun h => Int.mul_lt_mul_of_pos_right h hpos, fun h => Int.lt_of_mul_lt_mul_right h (Int.le_of_lt hpos)⟩

theorem Dec.truncate_id (d : Dec) (h : d.scale ≤ 34) : d.truncate 34 = d := by
  unfold Dec.truncate
  simp only [show ¬ 34 < d.scale by omega, ↓reduceIte]

theorem Dec.truncate_scale (d : Dec) : (d.truncate 34).scale ≤ 34 := by
  unfold Dec.truncate
  split
  · exact Nat.le_refl _
  · omega

/-- a stored text that reads as a bigdecimal with at most 34 decimals and value `i` (× 10^34) -/
def RepDec (b : Bytes) (i : Int) : Prop := ∃ d, Dec.parse b = some d ∧ d.scale ≤ 34 ∧ d.val34 = i

theorem RepDec.typed {b : Bytes} {i : Int} (h : RepDec b i) : typedDec34 b = some i := by
  obtain ⟨d, h1, h2, h3⟩ := h
  simp only [typedDec34, h1, h2, ↓reduceIte, h3]

theorem repDec_render (d : Dec) (h : d.scale ≤ 34) : RepDec d.render d.val34 := by
  obtain ⟨d', p1, p2, p3⟩ := Dec.parse_render d
  refine ⟨d', p1, Nat.le_trans p2 h, ?_⟩
  show _ = d.coef * (10 : Int) ^ (34 - d.scale)
  rw [p3]
  exact (Dec.rescaleUp_mul d' p2 h).symm

/-! ### bigdecimal values of any scale: equality as numbers -/

/-- `a` and `b` stand for the same number (cross-multiplied: no division) -/
def Dec.Eqv (a b : Dec) : Prop := a.coef * (10 : Int) ^ b.scale = b.coef * (10 : Int) ^ a.scale

theorem Dec.Eqv.refl (a : Dec) : a.Eqv a := rfl

theorem Dec.Eqv.symm {a b : Dec} (h : a.Eqv b) : b.Eqv a := Eq.symm h

theorem Dec.eqv_iff {a b : Dec} {s : Nat} (ha : a.scale ≤ s) (hb : b.scale ≤ s) :
    a.Eqv b ↔ (a.rescaleUp s).coef = (b.rescaleUp s).coef := by
  have hpos : ∀ n : Nat, (10 : Int) ^ n ≠ 0 := fun n => Int.ne_of_gt (Int.pow_pos (by decide))
  have e : ∀ (x : Int) (p q : Nat), p ≤ s →
      x * (10 : Int) ^ (s - p) * (10 : Int) ^ (p + q) = x * (10 : Int) ^ q * (10 : Int) ^ s := by
    intro x p q hp
    rw [Int.mul_assoc, Int.mul_assoc, ← Int.pow_add, ← Int.pow_add, ← Nat.add_assoc, Nat.sub_add_cancel hp,
      Nat.add_comm]
  calc a.Eqv b
      ↔ a.coef * (10 : Int) ^ b.scale * (10 : Int) ^ s = b.coef * (10 : Int) ^ a.scale * (10 : Int) ^ s :=
        (Int.mul_eq_mul_right_iff (hpos s)).symm
    _ ↔ (a.rescaleUp s).coef * (10 : Int) ^ (a.scale + b.scale) =
          (b.rescaleUp s).coef * (10 : Int) ^ (a.scale + b.scale) := by
        rw [← e _ _ _ ha, Nat.add_comm a.scale, ← e _ _ _ hb]; rfl
    _ ↔ _ := Int.mul_eq_mul_right_iff (hpos _)

theorem Dec.Eqv.trans {a b c : Dec} (h1 : a.Eqv b) (h2 : b.Eqv c) : a.Eqv c :=
  (Dec.eqv_iff (s := a.scale + b.scale + c.scale) (by omega) (by omega)).2
    (((Dec.eqv_iff (by omega) (by omega)).1 h1).trans ((Dec.eqv_iff (by omega) (by omega)).1 h2))

theorem Dec.add_congr {a a' b b' : Dec} (ha : a.Eqv a') (hb : b.Eqv b') : (a.add b).Eqv (a'.add b') := by
  rw [Dec.eqv_iff (s := a.scale + a'.scale + b.scale + b'.scale) (Nat.max_le.2 ⟨by omega, by omega⟩)
      (Nat.max_le.2 ⟨by omega, by omega⟩),
    Dec.add_rescaleUp a b (by omega) (by omega), Dec.add_rescaleUp a' b' (by omega) (by omega),
    (Dec.eqv_iff (by omega) (by omega)).1 ha, (Dec.eqv_iff (by omega) (by omega)).1 hb]

/-- on the nose: the scale of a sum is the larger scale -/
theorem Dec.add_assoc (a b c : Dec) : (a.add b).add c = a.add (b.add c) := by
  have hs : ((a.add b).add c).scale = (a.add (b.add c)).scale := Nat.max_assoc _ _ _
  refine Dec.ext' hs ?_
  have h1 : a.scale ≤ ((a.add b).add c).scale :=
    Nat.le_trans (Nat.le_max_left _ b.scale) (Nat.le_max_left _ c.scale)
  have h2 : b.scale ≤ ((a.add b).add c).scale :=
    Nat.le_trans (Nat.le_max_right a.scale _) (Nat.le_max_left _ c.scale)
  have h3 : c.scale ≤ ((a.add b).add c).scale := Nat.le_max_right _ _
  show ((a.add b).rescaleUp ((a.add b).add c).scale).coef + (c.rescaleUp ((a.add b).add c).scale).coef =
    (a.rescaleUp (a.add (b.add c)).scale).coef + ((b.add c).rescaleUp (a.add (b.add c)).scale).coef
  rw [← hs, Dec.add_rescaleUp a b h1 h2, Dec.add_rescaleUp b c h2 h3, Int.add_assoc]

/-- a text that reads as a decimal standing for the same number as `d` -/
def RepDecQ (t : Bytes) (d : Dec) : Prop := ∃ d0, Dec.parse t = some d0 ∧ d0.Eqv d

theorem repDecQ_render (d : Dec) : RepDecQ d.render d := by
  obtain ⟨d', p1, p2, p3⟩ := Dec.parse_render d
  refine ⟨d', p1, ?_⟩
  unfold Dec.Eqv
  rw [p3, Int.mul_assoc, ← Int.pow_add, Nat.sub_add_cancel p2]

end SV
