import Model.Segmenter
import Lemmas.Segmenter
/-!
Composition lemmas (C13 → C02/C01): the segments the real `Segmenter` hands out, walked in index order,
list every block of `[init, end)` exactly once and in order.
-/
namespace SV
open Segmenter

theorem Tiles.blocks_flatten : ∀ {l : List Range} {a b : Nat}, Tiles l a b →
    (l.map Range.blocks).flatten = List.range' a (b - a)
  | [], _, _, h => h.elim
  | [r], a, b, ⟨h1, h2, _⟩ => by
    rw [List.map_singleton, List.flatten_singleton, Range.blocks, h1, h2]
  | r :: r2 :: rest, a, b, ⟨h1, h2, h3⟩ => by
    rw [List.map_cons, List.flatten_cons, Tiles.blocks_flatten h3, Range.blocks, h1,
      ← Nat.sub_add_sub_cancel (Nat.le_of_lt (Tiles.lt h3)) (Nat.le_of_lt h2), Nat.add_comm,
      ← List.range'_append_1, Nat.add_sub_cancel' (Nat.le_of_lt h2)]

theorem Tiles.sizes_sum {l : List Range} {a b : Nat} (h : Tiles l a b) : (l.map Range.size).sum = b - a := by
  have := congrArg List.length (Tiles.blocks_flatten h)
  rwa [List.length_flatten, List.map_map, List.length_range',
    show List.length ∘ Range.blocks = Range.size from funext fun r => List.length_range' ..] at this

variable (s : Segmenter)

/-- `n = lastIndex - i` counts down to the last index, whose segment is the one that stops at `end`. -/
theorem segments_from_tiles (hk : 0 < s.interval) (hlt : s.init < s.end_) :
    ∀ (n i : Nat), i + n = s.lastIndex → s.firstIndex ≤ i →
      Tiles ((List.range' i (n + 1)).filterMap s.range?) (max s.init (i * s.interval)) s.end_
  | 0, i, hi, hf => by
    obtain rfl : i = s.lastIndex := hi
    have hpos : 0 < s.end_ := Nat.zero_lt_of_lt hlt
    rw [List.range'_one, List.filterMap_cons, range?_eq s hk hlt _ hf (Nat.le_refl _), List.filterMap_nil,
      Nat.min_eq_right (end_le_last_succ_mul s hk hpos)]
    exact ⟨rfl, rfl, Nat.max_lt.2 ⟨hlt, last_mul_lt_end s hk hpos⟩⟩
  | n + 1, i, hi, hf => by
    have hil : i < s.lastIndex := by omega
    have hinit := (firstIndex_le_iff s hk).1 hf
    have ih := segments_from_tiles hk hlt n (i + 1) (by omega) (Nat.le_succ_of_le hf)
    rw [Nat.succ_mul, Nat.max_eq_right (Nat.le_of_lt hinit)] at ih
    rw [List.range'_succ, List.filterMap_cons, range?_eq s hk hlt i hf (Nat.le_of_lt hil),
      Nat.min_eq_left (Nat.le_of_lt (succ_mul_lt_end s hk i hil)), Nat.succ_mul]
    exact Tiles.cons rfl (Nat.max_lt.2 ⟨hinit, Nat.lt_add_of_pos_right hk⟩) ih

theorem segments_tiles (hk : 0 < s.interval) (hlt : s.init < s.end_) : Tiles s.segments s.init s.end_ := by
  have hfl := first_le_last s hk hlt
  have h := segments_from_tiles s hk hlt (s.lastIndex - s.firstIndex) s.firstIndex
    (Nat.add_sub_cancel' hfl) (Nat.le_refl _)
  have e : max s.init (s.firstIndex * s.interval) = s.init := Nat.max_eq_left (Nat.div_mul_le_self _ _)
  rwa [e, ← Nat.sub_add_comm hfl] at h

theorem segments_blocks (hk : 0 < s.interval) (hlt : s.init < s.end_) :
    (s.segments.map Range.blocks).flatten = List.range' s.init (s.end_ - s.init) :=
  (segments_tiles s hk hlt).blocks_flatten

theorem Segmenter.segments_sizes (hk : 0 < s.interval) (hlt : s.init < s.end_) :
    (s.segments.map Range.size).sum = s.end_ - s.init :=
  (segments_tiles s hk hlt).sizes_sum

theorem Segmenter.segments_map_flatten {α : Type} (s : Segmenter) (hk : 0 < s.interval) (hlt : s.init < s.end_)
    (f : Nat → α) :
    (s.segments.map (fun r => r.blocks.map f)).flatten = (List.range' s.init (s.end_ - s.init)).map f := by
  rw [← segments_blocks s hk hlt, List.map_flatten, List.map_map]
  rfl

theorem Segmenter.segments_mem_bounds (s : Segmenter) (hk : 0 < s.interval) (hlt : s.init < s.end_)
    {r : Range} (hr : r ∈ s.segments) : s.init ≤ r.start ∧ r.stop ≤ s.end_ :=
  have h := (segments_tiles s hk hlt).ordered.2 r hr
  ⟨h.1, h.2.2⟩

end SV
