import Model.Deliver
/-! What `deliver` makes of one executed block (C04): `deliverOne` is the function it maps over the blocks;
below the hand-off an output has to exist, from the hand-off on an absent output is the empty payload. -/
namespace SV.Lin

def deliverOne (r : DReq) (p : Nat × Option Bytes) : Option DMsg :=
  if p.1 < r.start ∨ r.stop ≤ p.1 then none
  else if p.1 < r.handoff then p.2.map (fun v => ⟨p.1, v⟩)
  else some ⟨p.1, p.2.getD []⟩

theorem deliver_eq (lin : List (Nat × Option Bytes)) (r : DReq) : deliver lin r = lin.filterMap (deliverOne r) := rfl

theorem deliverOne_eq_some {r : DReq} {n : Nat} {o : Option Bytes} {m : DMsg} :
    deliverOne r (n, o) = some m ↔
      r.start ≤ n ∧ n < r.stop ∧ m.num = n ∧
        if n < r.handoff then o = some m.payload else m.payload = o.getD [] := by
  obtain ⟨num, payload⟩ := m
  unfold deliverOne
  by_cases hr : n < r.start ∨ r.stop ≤ n
  · rw [if_pos hr]
    exact ⟨nofun, fun h => absurd hr (by omega)⟩
  rw [if_neg hr]
  have hr' : r.start ≤ n ∧ n < r.stop := by omega
  by_cases hh : n < r.handoff
  · rw [if_pos hh, if_pos hh]
    cases o with
    | none => exact ⟨nofun, fun h => nomatch h.2.2.2⟩
    | some v =>
      constructor
      · intro h; cases h; exact ⟨hr'.1, hr'.2, rfl, rfl⟩
      · rintro ⟨_, _, rfl, h⟩; cases h; rfl
  · rw [if_neg hh, if_neg hh]
    constructor
    · intro h; cases h; exact ⟨hr'.1, hr'.2, rfl, rfl⟩
    · rintro ⟨_, _, rfl, rfl⟩; rfl

theorem mem_deliver {lin : List (Nat × Option Bytes)} {r : DReq} {m : DMsg} :
    m ∈ deliver lin r ↔ ∃ o, (m.num, o) ∈ lin ∧ r.start ≤ m.num ∧ m.num < r.stop ∧
      if m.num < r.handoff then o = some m.payload else m.payload = o.getD [] := by
  rw [deliver_eq, List.mem_filterMap]
  constructor
  · rintro ⟨⟨n, o⟩, hp, h⟩
    obtain ⟨h1, h2, rfl, h4⟩ := deliverOne_eq_some.1 h
    exact ⟨o, hp, h1, h2, h4⟩
  · rintro ⟨o, hp, h1, h2, h4⟩
    exact ⟨(m.num, o), hp, deliverOne_eq_some.2 ⟨h1, h2, rfl, h4⟩⟩

theorem deliverOne_resume (r : DReq) (c handoff' : Nat) (hc : r.start ≤ c + 1)
    (hh : handoff' = r.handoff ∨ (r.handoff ≤ c + 1 ∧ handoff' ≤ c + 1)) (p : Nat × Option Bytes) :
    deliverOne ⟨c + 1, r.stop, handoff'⟩ p = (deliverOne r p).filter (fun m => decide (c < m.num)) := by
  obtain ⟨n, o⟩ := p
  apply Option.ext
  intro m
  rw [Option.filter_eq_some_iff, deliverOne_eq_some, deliverOne_eq_some, decide_eq_true_eq]
  show c + 1 ≤ n ∧ n < r.stop ∧ m.num = n ∧ (if n < handoff' then _ else _) ↔ _
  by_cases hn : c + 1 ≤ n
  · have hif : (if n < handoff' then o = some m.payload else m.payload = o.getD []) ↔
        (if n < r.handoff then o = some m.payload else m.payload = o.getD []) := by
      rcases hh with rfl | ⟨h1, h2⟩
      · exact Iff.rfl
      · rw [if_neg (by omega), if_neg (by omega)]
    constructor
    · rintro ⟨_, h2, h3, h4⟩; exact ⟨⟨by omega, h2, h3, hif.1 h4⟩, by omega⟩
    · rintro ⟨⟨_, h2, h3, h4⟩, _⟩; exact ⟨hn, h2, h3, hif.2 h4⟩
  · constructor
    · rintro ⟨h1, _⟩; exact absurd h1 hn
    · rintro ⟨⟨_, _, h3, _⟩, h5⟩; omega

end SV.Lin
