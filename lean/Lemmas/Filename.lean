import Model.Filename
/-!
Lemmas for C10 about `Model/Filename.lean`.  `%010d`: `atoiNat_pad10`, `pad10_length`.  The regular expression is used
through `matchHere_name` only; the string order through `nameLe_cons` (one character at a time), which `nameLe_digits`
turns into the numeric order on equal-length digit strings.  The listing: `walk_finds`, `walk_sound`.
-/
namespace SV.Filename

theorem isDigit_digitChar : ∀ d, d < 10 → isDigit (digitChar d) = true := by decide
theorem digitChar_val : ∀ d, d < 10 → (digitChar d).toNat - 48 = d := by decide

theorem decimalRev_lt {n : Nat} (h : n < 10) : decimalRev n = [digitChar n] := by
  rw [decimalRev]; simp [h]

theorem decimalRev_ge {n : Nat} (h : ¬ n < 10) :
    decimalRev n = digitChar (n % 10) :: decimalRev (n / 10) := by
  rw [decimalRev]; simp [h]

theorem decimalRev_digits (n : Nat) : ∀ c ∈ decimalRev n, isDigit c = true := by
  fun_induction decimalRev n with
  | case1 n h => intro c hc; rw [List.mem_singleton.1 hc]; exact isDigit_digitChar n h
  | case2 n h ih =>
    intro c hc
    rcases List.mem_cons.1 hc with rfl | hc
    · exact isDigit_digitChar _ (Nat.mod_lt _ (by decide))
    · exact ih c hc

theorem decimalRev_length_le (n : Nat) : ∀ k, n < 10 ^ (k + 1) → (decimalRev n).length ≤ k + 1 := by
  fun_induction decimalRev n with
  | case1 => exact fun k _ => Nat.succ_le_succ (Nat.zero_le _)
  | case2 n hn ih =>
    intro k hk
    cases k with
    | zero => exact absurd hk hn
    | succ k =>
      exact Nat.succ_le_succ (ih k (Nat.div_lt_of_lt_mul (by rw [Nat.pow_succ, Nat.mul_comm] at hk; exact hk)))

theorem foldr_decimalRev (n : Nat) :
    (decimalRev n).foldr (fun c acc => acc * 10 + (c.toNat - 48)) 0 = n := by
  fun_induction decimalRev n with
  | case1 n h =>
    simp only [List.foldr_cons, List.foldr_nil]
    rw [digitChar_val n h]; omega
  | case2 n h ih =>
    simp only [List.foldr_cons]
    rw [ih, digitChar_val _ (Nat.mod_lt _ (by decide))]
    omega

theorem atoiNat_decimal (n : Nat) : atoiNat (decimal n) = n := by
  unfold atoiNat decimal
  rw [List.foldl_reverse]
  exact foldr_decimalRev n

theorem foldl_zeros (z : Nat) :
    (List.replicate z '0').foldl (fun acc c => acc * 10 + (c.toNat - 48)) 0 = 0 := by
  induction z with
  | zero => rfl
  | succ z ih =>
    rw [List.replicate_succ, List.foldl_cons]
    exact ih

theorem pad10_eq (n : Nat) : pad10 n = List.replicate (10 - (decimal n).length) '0' ++ decimal n := rfl

theorem atoiNat_pad10 (n : Nat) : atoiNat (pad10 n) = n := by
  rw [pad10_eq, atoiNat, List.foldl_append, foldl_zeros]
  exact atoiNat_decimal n

theorem pad10_digits (n : Nat) : ∀ c ∈ pad10 n, isDigit c = true := by
  intro c hc
  rw [pad10_eq, List.mem_append, List.mem_replicate] at hc
  rcases hc with hc | hc
  · rw [hc.2]; decide
  · exact decimalRev_digits n c (List.mem_reverse.1 hc)

theorem pad10_ne_nil (n : Nat) : pad10 n ≠ [] := by
  refine List.ne_nil_of_length_pos ?_
  rw [pad10_eq, List.length_append, List.length_replicate]
  omega

theorem pad10_length {n : Nat} (h : n < 10 ^ 10) : (pad10 n).length = 10 := by
  have : (decimal n).length ≤ 10 := by
    rw [decimal, List.length_reverse]
    exact decimalRev_length_le n 9 h
  rw [pad10_eq, List.length_append, List.length_replicate]
  omega

theorem dropWhile_all {α : Type} (p : α → Bool) (l : List α) (h : ∀ c ∈ l, p c = true) : l.dropWhile p = [] := by
  induction l with
  | nil => rfl
  | cons a t ih => rw [List.dropWhile_cons, if_pos (h a (by simp)), ih (fun c hc => h c (by simp [hc]))]

theorem snapshotName_eq (isPartial : Bool) (start stop : Nat) :
    snapshotName isPartial start stop
      = pad10 stop ++ '-' :: (pad10 start ++ '.' :: (if isPartial then partialSuffix.tail else kvSuffix.tail)) := by
  cases isPartial <;> simp [snapshotName, fullName, partialName, kvSuffix, partialSuffix]

/-- the optional trace-id group of the regular expression fails: no second dot follows -/
theorem matchHere_name (d1 d2 kind : List Char) (k : Bool) (h1 : d1 ≠ []) (h2 : d2 ≠ [])
    (hd1 : ∀ c ∈ d1, isDigit c = true) (hd2 : ∀ c ∈ d2, isDigit c = true)
    (hkind : ∀ c ∈ kind, notDot c = true) (hk : kindPrefix kind = some k) :
    matchHere (d1 ++ '-' :: (d2 ++ '.' :: kind)) = some ⟨d1, d2, [], k⟩ := by
  unfold matchHere
  have hdash : ¬ isDigit '-' = true := by decide
  have hdot : ¬ isDigit '.' = true := by decide
  simp only [List.takeWhile_append_of_pos hd1, List.dropWhile_append_of_pos hd1,
    List.takeWhile_append_of_pos hd2, List.dropWhile_append_of_pos hd2, List.takeWhile_cons_of_neg hdash,
    List.dropWhile_cons_of_neg hdash, List.takeWhile_cons_of_neg hdot, List.dropWhile_cons_of_neg hdot,
    List.append_nil, h1, h2, if_false, dropWhile_all notDot kind hkind, ite_self, hk, Option.map_some]

theorem parse_snapshotName (isPartial : Bool) (start stop : Nat)
    (hs : start ≤ maxInt64) (he : stop ≤ maxInt64) :
    parseFileName (snapshotName isPartial start stop) = .ok ⟨start, stop, isPartial, false⟩ := by
  have hm := matchHere_name (pad10 stop) (pad10 start) _ isPartial (pad10_ne_nil _) (pad10_ne_nil _)
    (pad10_digits _) (pad10_digits _)
    (show ∀ c ∈ (if isPartial then partialSuffix.tail else kvSuffix.tail), notDot c = true by
      cases isPartial <;> decide)
    (by cases isPartial <;> rfl)
  have hf : findMatch (snapshotName isPartial start stop) = some ⟨pad10 stop, pad10 start, [], isPartial⟩ := by
    rw [snapshotName_eq]
    cases h : pad10 stop ++ '-' :: (pad10 start ++ '.' :: (if isPartial then partialSuffix.tail else kvSuffix.tail)) with
    | nil => exact absurd (List.append_eq_nil_iff.mp h).2 (List.cons_ne_nil _ _)
    | cons c cs => rw [findMatch, ← h, hm]
  unfold parseFileName
  rw [hf]
  simp only [atoiNat_pad10]
  rw [if_neg (by omega)]
  simp

theorem char_lt_iff (a b : Char) : a < b ↔ a.toNat < b.toNat := by
  rw [Char.lt_def]; exact UInt32.lt_iff_toNat_lt

theorem char_eq_of_toNat (a b : Char) (h : a.toNat = b.toNat) : a = b :=
  Char.ext (UInt32.toNat_inj.mp h)

theorem nameLe_cons (a b : Char) (as bs : Name) :
    nameLe (a :: as) (b :: bs) = true ↔ a.toNat < b.toNat ∨ a = b ∧ nameLe as bs = true := by
  rw [nameLe]
  simp only [char_lt_iff]
  by_cases h1 : a.toNat < b.toNat
  · simp [h1]
  · by_cases h2 : b.toNat < a.toNat
    · have : a ≠ b := by rintro rfl; omega
      simp [h1, h2, this]
    · have : a = b := char_eq_of_toNat a b (by omega)
      simp [this]

theorem isDigit_bounds {c : Char} (h : isDigit c = true) : 48 ≤ c.toNat ∧ c.toNat ≤ 57 := by
  unfold isDigit at h
  simp only [Bool.and_eq_true, decide_eq_true_eq] at h
  have h1 := h.1
  have h2 := h.2
  rw [Char.le_def, UInt32.le_iff_toNat_le] at h1 h2
  exact ⟨h1, h2⟩

theorem foldl_digits {α : Type} (val : α → Nat) (cs : List α) : ∀ acc : Nat,
    cs.foldl (fun acc c => acc * 10 + val c) acc
      = acc * 10 ^ cs.length + cs.foldl (fun acc c => acc * 10 + val c) 0 := by
  induction cs with
  | nil => intro acc; simp
  | cons c t ih =>
    intro acc
    rw [List.foldl_cons, List.foldl_cons, ih, ih (0 * 10 + val c), List.length_cons, Nat.pow_succ]
    rw [Nat.add_mul, Nat.zero_mul, Nat.zero_add, Nat.mul_assoc, Nat.mul_comm 10, Nat.add_assoc]

theorem atoiNat_cons (c : Char) (cs : List Char) :
    atoiNat (c :: cs) = (c.toNat - 48) * 10 ^ cs.length + atoiNat cs := by
  unfold atoiNat
  rw [List.foldl_cons, foldl_digits, Nat.zero_mul, Nat.zero_add]

theorem atoiNat_lt (cs : List Char) (h : ∀ c ∈ cs, isDigit c = true) : atoiNat cs < 10 ^ cs.length := by
  induction cs with
  | nil => simp [atoiNat]
  | cons c t ih =>
    rw [atoiNat_cons, List.length_cons, Nat.pow_succ]
    have hb := isDigit_bounds (h c (by simp))
    have := ih (fun x hx => h x (by simp [hx]))
    have hd : c.toNat - 48 ≤ 9 := by omega
    have : (c.toNat - 48) * 10 ^ t.length ≤ 9 * 10 ^ t.length := Nat.mul_le_mul_right _ hd
    omega

theorem nameLe_digits (x : List Char) : ∀ y : List Char, x.length = y.length →
    (∀ c ∈ x, isDigit c = true) → (∀ c ∈ y, isDigit c = true) →
    (nameLe x y = true ↔ atoiNat x ≤ atoiNat y) := by
  induction x with
  | nil =>
    intro y hl _ _
    cases y with
    | nil => simp [nameLe]
    | cons _ _ => simp at hl
  | cons a as ih =>
    intro y hl hx hy
    cases y with
    | nil => simp at hl
    | cons b bs =>
      have hl' : as.length = bs.length := Nat.succ.inj hl
      have ha := isDigit_bounds (hx a (by simp))
      have hb := isDigit_bounds (hy b (by simp))
      have hva := atoiNat_lt as (fun c hc => hx c (by simp [hc]))
      have hvb := atoiNat_lt bs (fun c hc => hy c (by simp [hc]))
      rw [nameLe_cons, atoiNat_cons, atoiNat_cons, hl',
        ih bs hl' (fun c hc => hx c (by simp [hc])) (fun c hc => hy c (by simp [hc]))]
      rw [hl'] at hva
      generalize 10 ^ bs.length = P at *
      -- a smaller leading digit outweighs whatever follows, since what follows is below `P`
      have lead {c d : Nat} (h : c < d) : c * P + P ≤ d * P := by
        have := Nat.mul_le_mul_right P (Nat.succ_le_of_lt h)
        rwa [Nat.succ_mul] at this
      constructor
      · rintro (h | ⟨rfl, h⟩)
        · have := lead (show a.toNat - 48 < b.toNat - 48 by omega); omega
        · omega
      · intro h
        by_cases h1 : a.toNat < b.toNat
        · exact .inl h1
        · by_cases h2 : b.toNat < a.toNat
          · have := lead (show b.toNat - 48 < a.toNat - 48 by omega); omega
          · obtain rfl := char_eq_of_toNat a b (by omega)
            exact .inr ⟨rfl, by omega⟩

theorem nameLe_pad10 {a b : Nat} (ha : a < 10 ^ 10) (hb : b < 10 ^ 10) :
    nameLe (pad10 a) (pad10 b) = true ↔ a ≤ b := by
  rw [nameLe_digits (pad10 a) (pad10 b) (by rw [pad10_length ha, pad10_length hb]) (pad10_digits a) (pad10_digits b),
    atoiNat_pad10, atoiNat_pad10]

theorem nameLe_refl (x : Name) : nameLe x x = true := by
  induction x with
  | nil => rfl
  | cons a t ih => exact (nameLe_cons a a t t).2 (.inr ⟨rfl, ih⟩)

theorem nameLe_total (x : Name) : ∀ y : Name, (nameLe x y || nameLe y x) = true := by
  induction x with
  | nil => intro y; rfl
  | cons a t ih =>
    intro y
    cases y with
    | nil => rfl
    | cons b bs =>
      have := ih bs
      rw [Bool.or_eq_true] at this ⊢
      rw [nameLe_cons, nameLe_cons]
      by_cases h1 : a.toNat < b.toNat
      · exact .inl (.inl h1)
      · by_cases h2 : b.toNat < a.toNat
        · exact .inr (.inl h2)
        · obtain rfl := char_eq_of_toNat a b (by omega)
          exact this.imp (fun h => .inr ⟨rfl, h⟩) (fun h => .inr ⟨rfl, h⟩)

theorem nameLe_trans (x : Name) : ∀ y z : Name, nameLe x y = true → nameLe y z = true → nameLe x z = true := by
  induction x with
  | nil => intro y z _ _; rfl
  | cons a t ih =>
    intro y z hxy hyz
    cases y with
    | nil => exact Bool.noConfusion hxy
    | cons b bs =>
      cases z with
      | nil => exact Bool.noConfusion hyz
      | cons c cs =>
        rw [nameLe_cons] at hxy hyz ⊢
        rcases hxy with h | ⟨rfl, h⟩ <;> rcases hyz with h' | ⟨rfl, h'⟩
        · exact .inl (Nat.lt_trans h h')
        · exact .inl h
        · exact .inl h'
        · exact .inr ⟨rfl, ih bs cs h h'⟩

theorem nameLe_prefix (x : List Char) : ∀ (y r1 r2 : List Char), x.length = y.length →
    nameLe (x ++ r1) (y ++ r2) = true → nameLe x y = true := by
  induction x with
  | nil => intro y r1 r2 _ _; rfl
  | cons a t ih =>
    intro y r1 r2 hl h
    cases y with
    | nil => simp at hl
    | cons b bs =>
      rw [List.cons_append, List.cons_append, nameLe_cons] at h
      exact (nameLe_cons a b t bs).2 (h.imp_right fun ⟨e, h'⟩ => ⟨e, ih bs r1 r2 (Nat.succ.inj hl) h'⟩)

theorem le_of_nameLe_snapshotName {p q : Bool} {a b c d : Nat} (hb : b < 10 ^ 10) (hd : d < 10 ^ 10)
    (h : nameLe (snapshotName p a b) (snapshotName q c d) = true) : b ≤ d := by
  rw [snapshotName_eq, snapshotName_eq] at h
  exact (nameLe_pad10 hb hd).1
    (nameLe_prefix (pad10 b) (pad10 d) _ _ (by rw [pad10_length hb, pad10_length hd]) h)

theorem walk_ok_acc_subset (stops : Bool) (below : Nat) (names : List Name) (acc : List FileInfo)
    (hnp : ∀ n ∈ names, parseFileName n ≠ .panic) :
    ∃ l, walk stops below names acc = .ok l ∧ ∀ x ∈ acc, x ∈ l := by
  fun_induction walk stops below names acc with
  | case1 acc => exact ⟨acc, rfl, fun _ h => h⟩
  | case3 n rest acc hp => exact absurd hp (hnp n (List.mem_cons_self ..))
  | case5 n rest acc => exact ⟨acc, rfl, fun _ h => h⟩
  | case7 n rest acc fi hp ht hb ih =>
    obtain ⟨l, hl, hsub⟩ := ih fun m hm => hnp m (List.mem_cons_of_mem _ hm)
    exact ⟨l, hl, fun x hx => hsub x (List.mem_append_left _ hx)⟩
  | case2 n rest acc hp ih | case4 n rest acc fi hp ht ih | case6 n rest acc fi hp ht hb hs ih =>
    exact ih fun m hm => hnp m (List.mem_cons_of_mem _ hm)

/-- what the early stop needs: every unskipped file that sorts before `g` starts below `below` -/
theorem walk_finds (stops : Bool) (below : Nat) (g : Name) (gfi : FileInfo) (names : List Name)
    (acc : List FileInfo)
    (hpw : names.Pairwise (fun a b => nameLe a b = true)) (hg : g ∈ names)
    (hnp : ∀ n ∈ names, parseFileName n ≠ .panic)
    (hpg : parseFileName g = .ok gfi) (htg : gfi.withTraceID = false)
    (hK : ∀ n ∈ names, ∀ fi, parseFileName n = .ok fi → fi.withTraceID = false → nameLe n g = true →
      fi.start < below) :
    ∃ l, walk stops below names acc = .ok l ∧ gfi ∈ l := by
  fun_induction walk stops below names acc with
  | case1 acc => exact absurd hg List.not_mem_nil
  | case3 n rest acc hp => exact absurd hp (hnp n (List.mem_cons_self ..))
  | case2 n rest acc hp ih | case4 n rest acc fi hp ht ih =>
    -- a skipped name is not `g`, which parses and carries no trace id
    refine ih (List.pairwise_cons.1 hpw).2 ((List.mem_cons.1 hg).resolve_left ?_)
      (fun m hm => hnp m (List.mem_cons_of_mem _ hm)) (fun m hm => hK m (List.mem_cons_of_mem _ hm))
    rintro rfl
    rw [hp] at hpg
    cases hpg <;> (rw [ht] at htg; cases htg)
  | case5 n rest acc fi hp ht hb | case6 n rest acc fi hp ht hb hs ih =>
    have hle : nameLe n g = true := by
      rcases List.mem_cons.1 hg with rfl | hg'
      · exact nameLe_refl _
      · exact (List.pairwise_cons.1 hpw).1 g hg'
    exact absurd (hK n (List.mem_cons_self ..) fi hp (by simpa using ht) hle) (Nat.not_lt.2 hb)
  | case7 n rest acc fi hp ht hb ih =>
    rcases List.mem_cons.1 hg with rfl | hg'
    · obtain ⟨l, hl, hsub⟩ := walk_ok_acc_subset stops below rest (acc ++ [fi])
        fun m hm => hnp m (List.mem_cons_of_mem _ hm)
      rw [hp] at hpg; cases hpg
      exact ⟨l, hl, hsub _ (by simp)⟩
    · exact ih (List.pairwise_cons.1 hpw).2 hg' (fun m hm => hnp m (List.mem_cons_of_mem _ hm))
        (fun m hm => hK m (List.mem_cons_of_mem _ hm))

theorem walk_sound (stops : Bool) (below : Nat) (ns : List Name) (acc l : List FileInfo)
    (hw : walk stops below ns acc = .ok l) :
    ∀ fi ∈ l, fi ∈ acc ∨ fi.withTraceID = false ∧ fi.start < below ∧ ∃ n ∈ ns, parseFileName n = .ok fi := by
  fun_induction walk stops below ns acc with
  | case1 acc | case5 n rest acc =>
    rw [ListResult.ok.injEq] at hw
    exact hw ▸ fun fi h => .inl h
  | case3 => exact ListResult.noConfusion hw
  | case2 n rest acc hp ih | case4 n rest acc fi hp ht ih | case6 n rest acc fi hp ht hb hs ih =>
    exact fun fi h => (ih hw fi h).imp_right fun ⟨h₁, h₂, m, hm, h₃⟩ => ⟨h₁, h₂, m, List.mem_cons_of_mem _ hm, h₃⟩
  | case7 n rest acc fi hp ht hb ih =>
    intro x hx
    rcases ih hw x hx with h | ⟨h₁, h₂, m, hm, h₃⟩
    · rcases List.mem_append.1 h with h | h
      · exact .inl h
      · rw [List.mem_singleton.1 h]
        exact .inr ⟨by simpa using ht, Nat.lt_of_not_le hb, n, List.mem_cons_self .., hp⟩
    · exact .inr ⟨h₁, h₂, m, List.mem_cons_of_mem _ hm, h₃⟩

theorem sortNames_pairwise (names : List Name) : (sortNames names).Pairwise (fun a b => nameLe a b = true) :=
  List.pairwise_mergeSort (fun a b c => nameLe_trans a b c) (fun a b => nameLe_total a b) names

theorem mem_sortNames {n : Name} {names : List Name} : n ∈ sortNames names ↔ n ∈ names :=
  (List.mergeSort_perm names nameLe).mem_iff

end SV.Filename
