import Lemmas.History
import Model.Forks
/-!
The two developments behind C03.
A. Stores: every store operation maps stores with the same content (`Sim`) to similar results, hence
`execBlock_congr`; with it `run_rel` relates the undo stack to the linear execution of `canonCalls`.
B. Clients: `stepF_new/_undo/_final/_stalled` say what one pipeline step does to the messages; `run_main` carries
`Main` (the client holds `viewOf` of the chain) and `Safe` (every moment of the stream) along `ValidSteps`.
-/
namespace SV

/-! ### A.1 `bytesLe` is the lexicographic order of `List UInt8`
(A.1 and A.2 are facts about `Model/Store.lean` that only the congruence A.3 uses) -/

theorem bytesLe_iff : ∀ a b : Bytes, bytesLe a b = true ↔ a ≤ b := by
  intro a
  induction a with
  | nil => intro b; exact ⟨fun _ => List.nil_le _, fun _ => rfl⟩
  | cons x xs ih =>
    intro b
    cases b with
    | nil => exact ⟨nofun, fun h => nomatch List.le_nil.1 h⟩
    | cons y ys =>
      rw [List.cons_le_cons_iff, ← ih, bytesLe]
      by_cases hxy : x < y
      · rw [if_pos hxy]; exact ⟨fun _ => Or.inl hxy, fun _ => rfl⟩
      rw [if_neg hxy]
      by_cases hyx : y < x
      · rw [if_pos hyx]
        exact ⟨nofun, fun h => h.elim (fun h => absurd h hxy) (fun h => absurd (h.1 ▸ hyx) hxy)⟩
      · rw [if_neg hyx]
        have hEq : x = y := by
          rw [UInt8.lt_iff_toNat_lt] at hxy hyx
          exact UInt8.toNat_inj.1 (by omega)
        exact ⟨fun h => Or.inr ⟨hEq, h⟩, fun h => h.elim (fun h => absurd h hxy) (fun h => h.2)⟩

theorem nodup_of_nodupKeys {kv : KV} (h : NodupKeys kv) : kv.Nodup := by
  unfold NodupKeys List.Nodup at *
  exact (List.pairwise_map.1 h).imp (fun hne heq => hne (congrArg _ heq))

theorem perm_of_look_eq {kv1 kv2 : KV} (h1 : NodupKeys kv1) (h2 : NodupKeys kv2)
    (h : ∀ k, look kv1 k = look kv2 k) : kv1.Perm kv2 := by
  rw [List.perm_ext_iff_of_nodup (nodup_of_nodupKeys h1) (nodup_of_nodupKeys h2)]
  intro p
  obtain ⟨k, v⟩ := p
  constructor
  · intro hm
    have := look_of_mem h1 hm
    rw [h k] at this
    exact mem_keys_of_look this
  · intro hm
    have := look_of_mem h2 hm
    rw [← h k] at this
    exact mem_keys_of_look this

theorem kvSize_perm {kv1 kv2 : KV} (h : kv1.Perm kv2) : kvSize kv1 = kvSize kv2 := by
  unfold kvSize
  exact (h.map _).sum_nat

def KeyLe (p q : Bytes × Bytes) : Prop := p.1 ≤ q.1

theorem insByKey_sorted (p : Bytes × Bytes) (l : KV) (h : l.Pairwise KeyLe) : (insByKey p l).Pairwise KeyLe := by
  induction l with
  | nil => exact List.pairwise_singleton _ _
  | cons q rest ih =>
    rw [List.pairwise_cons] at h
    rw [insByKey]
    by_cases hle : bytesLe p.1 q.1 = true
    · rw [if_pos hle, List.pairwise_cons]
      refine ⟨?_, List.pairwise_cons.2 h⟩
      intro a ha
      rcases List.mem_cons.1 ha with rfl | ha
      · exact (bytesLe_iff _ _).1 hle
      · exact List.le_trans ((bytesLe_iff _ _).1 hle) (h.1 a ha)
    · rw [if_neg hle, List.pairwise_cons]
      refine ⟨?_, ih h.2⟩
      intro a ha
      rcases List.mem_cons.1 ((insByKey_perm p rest).mem_iff.1 ha) with rfl | ha
      · exact (List.le_total _ _).resolve_left fun h => hle ((bytesLe_iff _ _).2 h)
      · exact h.1 a ha

theorem sortByKey_sorted (l : KV) : (sortByKey l).Pairwise KeyLe := by
  induction l with
  | nil => exact List.Pairwise.nil
  | cons p rest ih => exact insByKey_sorted p _ ih

theorem sortByKey_congr {l1 l2 : KV} (hn : NodupKeys l1) (hp : l1.Perm l2) : sortByKey l1 = sortByKey l2 := by
  have hp' : (sortByKey l1).Perm (sortByKey l2) := (sortByKey_perm l1).trans (hp.trans (sortByKey_perm l2).symm)
  refine List.Perm.eq_of_pairwise ?_ (sortByKey_sorted l1) (sortByKey_sorted l2) hp'
  intro a b ha hb hab hba
  have ha1 : a ∈ l1 := (sortByKey_perm l1).mem_iff.1 ha
  have hb1 : b ∈ l1 := hp.mem_iff.2 ((sortByKey_perm l2).mem_iff.1 hb)
  have hk : a.1 = b.1 := List.le_antisymm hab hba
  have e1 := look_of_mem hn (k := a.1) (v := a.2) ha1
  have e2 := look_of_mem hn (k := b.1) (v := b.2) hb1
  rw [hk, e2] at e1
  injection e1 with e1
  exact Prod.ext hk e1.symm

/-! ### A.3 `execBlock` -/

/-- two stores that differ at most in the order of their association list (and in `ops`, `lastOrd`) -/
structure Sim (s1 s2 : Store) : Prop where
  look   : ∀ k, look s1.kv k = look s2.kv k
  nd1    : NodupKeys s1.kv
  nd2    : NodupKeys s2.kv
  deltas : s1.deltas = s2.deltas
  size   : s1.size = s2.size

def SimR : Except SErr Store → Except SErr Store → Prop
  | .error e1, .error e2 => e1 = e2
  | .ok a, .ok b => Sim a b
  | _, _ => False

theorem SimR.ite {c : Prop} [Decidable c] {a a' b b' : Except SErr Store} (ht : SimR a a') (he : SimR b b') :
    SimR (if c then a else b) (if c then a' else b') := by
  split <;> assumption

theorem SimR.cases {x y : Except SErr Store} (h : SimR x y) :
    (∃ e, x = .error e ∧ y = .error e) ∨ ∃ a b, x = .ok a ∧ y = .ok b ∧ Sim a b := by
  cases x <;> cases y
  · exact Or.inl ⟨_, rfl, congrArg _ (Eq.symm h)⟩
  · exact h.elim
  · exact h.elim
  · exact Or.inr ⟨_, _, rfl, rfl, h⟩

theorem getLastIn_congr (rds : List Delta) {kv1 kv2 : KV} (h : ∀ k, look kv1 k = look kv2 k) (k : Bytes) :
    getLastIn rds kv1 k = getLastIn rds kv2 k := by
  induction rds with
  | nil => exact h k
  | cons d rest ih => unfold getLastIn; rw [ih]

theorem Sim.getLast {s1 s2 : Store} (h : Sim s1 s2) (k : Bytes) : s1.getLast k = s2.getLast k := by
  unfold Store.getLast
  rw [h.deltas]
  exact getLastIn_congr _ h.look k

theorem Sim.getAt {s1 s2 : Store} (h : Sim s1 s2) (ord : Nat) (k : Bytes) : s1.getAt ord k = s2.getAt ord k := by
  unfold Store.getAt
  rw [h.getLast, h.deltas]

theorem pushDelta_sim (cfg : Cfg) {s1 s2 : Store} (h : Sim s1 s2) (d : Delta) :
    SimR (pushDelta cfg s1 d) (pushDelta cfg s2 d) := by
  unfold pushDelta applyDelta
  by_cases h1 : d.key = []
  · rw [if_pos h1, if_pos h1]; exact rfl
  rw [if_neg h1, if_neg h1]
  by_cases h2 : d.key.head? = some 255
  · rw [if_pos h2, if_pos h2]; exact rfl
  rw [if_neg h2, if_neg h2]
  dsimp only
  rw [h.size]
  by_cases h3 : d.op ≠ DOp.delete ∧ applyDeltaSize s2.size d > cfg.totalLimit
  · rw [if_pos h3, if_pos h3]; exact rfl
  · rw [if_neg h3, if_neg h3]
    refine ⟨?_, nodup_applyDeltaKV h.nd1 d, nodup_applyDeltaKV h.nd2 d, by simp only [h.deltas], rfl⟩
    intro k
    show look (applyDeltaKV s1.kv d) k = look (applyDeltaKV s2.kv d) k
    rw [look_applyDeltaKV, look_applyDeltaKV]
    -- `SV.stepF`: one delta applied to a content (Lemmas/Store), not the pipeline step `Fk.stepF` of part B
    unfold stepF
    rw [h.look k]

theorem setRaw_sim (cfg : Cfg) {s1 s2 : Store} (h : Sim s1 s2) (ord : Nat) (k v : Bytes) :
    SimR (setRaw cfg s1 ord k v) (setRaw cfg s2 ord k v) := by
  unfold setRaw
  rw [h.getLast k]
  refine .ite rfl (.ite rfl (.ite rfl ?_))
  cases s2.getLast k with
  | none => exact pushDelta_sim cfg h _
  | some old => exact pushDelta_sim cfg h _

theorem setIfNotExistsRaw_sim (cfg : Cfg) {s1 s2 : Store} (h : Sim s1 s2) (ord : Nat) (k v : Bytes) :
    SimR (setIfNotExistsRaw cfg s1 ord k v) (setIfNotExistsRaw cfg s2 ord k v) := by
  unfold setIfNotExistsRaw
  rw [h.getLast k]
  cases s2.getLast k with
  | none => exact pushDelta_sim cfg h _
  | some old => exact h

theorem foldlM_sim {α : Type} (f : Store → α → Except SErr Store)
    (hf : ∀ s1 s2 a, Sim s1 s2 → SimR (f s1 a) (f s2 a)) : ∀ (L : List α) (s1 s2 : Store),
    Sim s1 s2 → SimR (L.foldlM f s1) (L.foldlM f s2) := by
  intro L
  induction L with
  | nil => intro s1 s2 h; exact h
  | cons a rest ih =>
    intro s1 s2 h
    rw [List.foldlM_cons, List.foldlM_cons]
    rcases (hf s1 s2 a h).cases with ⟨e, h1, h2⟩ | ⟨a1, b, h1, h2, hs⟩
    · rw [h1, h2]; exact rfl
    · rw [h1, h2]; exact ih a1 b hs

theorem deletePrefixRaw_sim (cfg : Cfg) {s1 s2 : Store} (h : Sim s1 s2) (ord : Nat) (pfx : Bytes) :
    SimR (deletePrefixRaw cfg s1 ord pfx) (deletePrefixRaw cfg s2 ord pfx) := by
  unfold deletePrefixRaw
  have hperm := perm_of_look_eq h.nd1 h.nd2 h.look
  have hnd : NodupKeys (s1.kv.filter (fun p => isPrefix pfx p.1)) :=
    List.Nodup.sublist (List.Sublist.map _ List.filter_sublist) h.nd1
  rw [sortByKey_congr hnd (hperm.filter _)]
  exact foldlM_sim (fun s (p : Bytes × Bytes) => pushDelta cfg s ⟨.delete, ord, p.1, p.2, []⟩)
    (fun a b p hab => pushDelta_sim cfg hab _) _ s1 s2 h

theorem flushOpBody_sim (cfg : Cfg) (sem : Sem) {s1 s2 : Store} (h : Sim s1 s2) (op : Op) :
    SimR (flushOpBody cfg sem s1 op) (flushOpBody cfg sem s2 op) := by
  unfold flushOpBody
  split
  · exact setRaw_sim cfg h _ _ _
  · exact setIfNotExistsRaw_sim cfg h _ _ _
  · exact deletePrefixRaw_sim cfg h _ _
  · dsimp only
    rw [h.getAt]
    split
    · simp only [SimR]
    · exact setRaw_sim cfg h _ _ _

theorem flushOp_sim (cfg : Cfg) (sem : Sem) {s1 s2 : Store} (h : Sim s1 s2) (op : Op) :
    SimR (flushOp cfg sem s1 op) (flushOp cfg sem s2 op) := by
  unfold flushOp
  rcases (flushOpBody_sim cfg sem h op).cases with ⟨e, h1, h2⟩ | ⟨a, b, h1, h2, hs⟩
  · rw [h1, h2]; exact rfl
  · -- `Sim` does not mention `ops` and `lastOrd`: it passes, field by field, to the store with `lastOrd` set
    rw [h1, h2]; exact ⟨hs.look, hs.nd1, hs.nd2, hs.deltas, hs.size⟩

theorem flush_sim (cfg : Cfg) (sem : Sem) {s1 s2 : Store} (h : Sim s1 s2) (ho : s1.ops = s2.ops) :
    SimR (flush cfg sem s1) (flush cfg sem s2) := by
  unfold flush
  rw [ho]
  exact foldlM_sim _ (fun a b op hab => flushOp_sim cfg sem hab op) _ _ _
    ⟨h.look, h.nd1, h.nd2, h.deltas, h.size⟩

theorem Clean.sim {s1 s2 : Store} (h1 : Clean s1) (h2 : Clean s2) (h : ∀ k, look s1.kv k = look s2.kv k) :
    Sim s1 s2 :=
  ⟨h, h1.nodup, h2.nodup, by rw [h1.deltas, h2.deltas],
   by rw [h1.size, h2.size]; exact kvSize_perm (perm_of_look_eq h1.nodup h2.nodup h)⟩

/-- the order of the association list (Go: the map's iteration order) is irrelevant to what a block does -/
theorem execBlock_congr (cfg : Cfg) (sem : Sem) {s1 s2 : Store} (h1 : Clean s1) (h2 : Clean s2)
    (h : ∀ k, look s1.kv k = look s2.kv k) (ho : s1.ops = s2.ops) (calls : List Op) :
    match execBlock cfg sem s1 calls, execBlock cfg sem s2 calls with
    | .error e1, .error e2 => e1 = e2
    | .ok a, .ok b => (∀ k, look a.kv k = look b.kv k) ∧ a.deltas = b.deltas ∧ a.size = b.size
    | _, _ => False := by
  have hs : SimR (execBlock cfg sem s1 calls) (execBlock cfg sem s2 calls) := by
    unfold execBlock
    rw [record_fold_eq, record_fold_eq]
    exact flush_sim cfg sem ⟨h, h1.nodup, h2.nodup, by show s1.deltas = s2.deltas; rw [h1.deltas, h2.deltas],
      (h1.sim h2 h).size⟩ (by show s1.ops ++ calls = s2.ops ++ calls; rw [ho])
  rcases hs.cases with ⟨e, e1, e2⟩ | ⟨a, b, e1, e2, hab⟩
  · rw [e1, e2]
  · rw [e1, e2]; exact ⟨hab.look, hab.deltas, hab.size⟩

/-! ### A.4 `runHist` -/

/-- the steps a chain with forks causes on a store: blocks, undo of the most recent applied block, finality -/
def isForkStep : Hist → Bool
  | .block _ | .undo | .final => true
  | _ => false

def ForkOnly (h : List Hist) : Prop := ∀ x ∈ h, isForkStep x = true

instance (h : List Hist) : Decidable (ForkOnly h) := by unfold ForkOnly; infer_instance

/-- the calls of the applied, not undone blocks (most recent first) and how many of them can still be
undone (the length of `HState.stack`) -/
structure CanonSt where
  applied : List (List Op)
  depth   : Nat

/-- mirrors `stepHist`'s treatment of the stack: a block pushes; an undo pops, and is ignored when no
un-finalised block is left; finality makes the oldest un-finalised block permanent (`dropLast`) -/
def canonStep (c : CanonSt) : Hist → CanonSt
  | .block calls => ⟨calls :: c.applied, c.depth + 1⟩
  | .undo => if c.depth = 0 then c else ⟨c.applied.tail, c.depth - 1⟩
  | .final => ⟨c.applied, c.depth - 1⟩
  | _ => c

/-- the blocks of the canonical chain, oldest first: those applied and not undone -/
def canonCalls (h : List Hist) : List (List Op) := (h.foldl canonStep ⟨[], 0⟩).applied.reverse

def hs0 : HState := ⟨Store.empty, [], false⟩

theorem hinv0 : HInv hs0 := ⟨⟨by unfold NodupKeys; decide, rfl⟩, trivial⟩

/-- `cur` is the content of the linear execution of the blocks `applied` (most recent first), which succeeds -/
def LinContent (cfg : Cfg) (sem : Sem) (applied : List (List Op)) (cur : Content) : Prop :=
  (runHist cfg sem hs0 (applied.reverse.map Hist.block)).dead = false ∧
  look (runHist cfg sem hs0 (applied.reverse.map Hist.block)).s.kv = cur

/-- `StackInv` with every content the stack unwinds to identified as a `LinContent`. `Chain`/`postF` are carried
again (they are in `HInv` too) because the undo case needs them for the very `f` that `LinContent` speaks of. -/
def Rel (cfg : Cfg) (sem : Sem) : Content → List (List Delta) → List (List Op) → Prop
  | cur, [], applied => LinContent cfg sem applied cur
  | cur, ds :: rest, applied => LinContent cfg sem applied cur ∧
      ∃ f c applied', applied = c :: applied' ∧ Chain f ds ∧ postF f ds = cur ∧ Rel cfg sem f rest applied'

theorem Rel.lin {cfg : Cfg} {sem : Sem} {cur : Content} {stack : List (List Delta)} {applied : List (List Op)}
    (h : Rel cfg sem cur stack applied) : LinContent cfg sem applied cur := by
  cases stack with
  | nil => exact h
  | cons ds rest => exact h.1

theorem Rel.dropLast {cfg : Cfg} {sem : Sem} : ∀ {stack : List (List Delta)} {cur : Content} {applied : List (List Op)},
    Rel cfg sem cur stack applied → Rel cfg sem cur stack.dropLast applied
  | [], _, _, h => h
  | [_], _, _, h => h.1
  | ds :: d2 :: rest, cur, applied, h => by
    obtain ⟨h0, f, c, applied', e, h1, h2, h3⟩ := h
    exact ⟨h0, f, c, applied', e, h1, h2, Rel.dropLast (stack := d2 :: rest) h3⟩

theorem runHist_dead {cfg : Cfg} {sem : Sem} (hs : List Hist) : ∀ {st : HState}, st.dead = true →
    runHist cfg sem st hs = st := by
  induction hs with
  | nil => intro st _; rfl
  | cons x rest ih =>
    intro st h
    have : stepHist cfg sem st x = st := by unfold stepHist; rw [if_pos h]
    show runHist cfg sem (stepHist cfg sem st x) rest = st
    rw [this, ih h]

theorem runHist_snoc {cfg : Cfg} {sem : Sem} (st : HState) (hs : List Hist) (x : Hist) :
    runHist cfg sem st (hs ++ [x]) = stepHist cfg sem (runHist cfg sem st hs) x := by
  simp [runHist, List.foldl_append]

theorem LinContent.block {cfg : Cfg} {sem : Sem} {applied : List (List Op)} {st : HState} (hi : HInv st)
    (hl : LinContent cfg sem applied (look st.s.kv)) {calls : List Op} {s' : Store}
    (hb : execBlock cfg sem (reset st.s) calls = .ok s') : LinContent cfg sem (calls :: applied) (look s'.kv) := by
  obtain ⟨hd, hk⟩ := hl
  unfold LinContent
  rw [List.reverse_cons, List.map_append, List.map_cons, List.map_nil, runHist_snoc]
  generalize hr : runHist cfg sem hs0 (applied.reverse.map Hist.block) = r at hd hk
  have hri : HInv r := by rw [← hr]; exact runHist_inv _ _ hinv0
  have hc := execBlock_congr cfg sem hri.sinv.reset hi.sinv.reset (fun k => congrFun hk k) rfl calls
  rw [hb] at hc
  unfold stepHist
  simp only [hd, Bool.false_eq_true, ↓reduceIte]
  cases hx : execBlock cfg sem (reset r.s) calls with
  | error e => rw [hx] at hc; exact hc.elim
  | ok b =>
    rw [hx] at hc
    dsimp only
    exact ⟨rfl, funext hc.1⟩

theorem step_rel {cfg : Cfg} {sem : Sem} {st : HState} {c : CanonSt} (hi : HInv st) (hd : st.dead = false)
    (x : Hist) (hx : isForkStep x = true) (hlen : st.stack.length = c.depth)
    (hr : Rel cfg sem (look st.s.kv) st.stack c.applied)
    (hd' : (stepHist cfg sem st x).dead = false) :
    (stepHist cfg sem st x).stack.length = (canonStep c x).depth ∧
    Rel cfg sem (look (stepHist cfg sem st x).s.kv) (stepHist cfg sem st x).stack (canonStep c x).applied := by
  unfold stepHist at hd' ⊢
  rw [hd, if_neg Bool.false_ne_true] at hd' ⊢
  cases x with
  | block calls =>
    dsimp only at hd' ⊢
    cases hb : execBlock cfg sem (reset st.s) calls with
    | error e => rw [hb] at hd'; cases hd'
    | ok s' =>
      obtain ⟨b, i1, _⟩ := execBlock_inv hi.sinv.reset hb
      exact ⟨congrArg (· + 1) hlen,
        LinContent.block hi hr.lin hb, look st.s.kv, calls, c.applied, rfl, i1.chain, i1.kvpost.symm, hr⟩
  | undo =>
    dsimp only
    cases hs : st.stack with
    | nil =>
      have : c.depth = 0 := by rw [← hlen, hs]; rfl
      simp only [canonStep, this, ↓reduceIte]
      exact ⟨hlen.trans this, hr⟩
    | cons ds rest =>
      rw [hs] at hlen hr
      obtain ⟨_, f, c0, applied', e, c1, c2, c3⟩ := hr
      obtain ⟨u1, _, _⟩ := undo_spec f ds st.s c1 c2.symm hi.sinv.nodup hi.sinv.size
      have hne : c.depth ≠ 0 := by rw [← hlen]; exact Nat.succ_ne_zero _
      simp only [canonStep, hne, ↓reduceIte]
      refine ⟨by rw [← hlen]; rfl, ?_⟩
      rw [u1, e]
      exact c3
  | final => exact ⟨by simp only [canonStep, List.length_dropLast, hlen], hr.dropLast⟩
  | merge p => cases hx
  | saveLoad => cases hx

theorem run_rel {cfg : Cfg} {sem : Sem} (hs : List Hist) : ∀ {st : HState} {c : CanonSt}, HInv st → st.dead = false →
    ForkOnly hs → st.stack.length = c.depth → Rel cfg sem (look st.s.kv) st.stack c.applied →
    (runHist cfg sem st hs).dead = false →
    Rel cfg sem (look (runHist cfg sem st hs).s.kv) (runHist cfg sem st hs).stack (hs.foldl canonStep c).applied := by
  induction hs with
  | nil => intro st c _ _ _ _ hr _; exact hr
  | cons x rest ih =>
    intro st c hi hd hf hlen hr hd'
    have hx : isForkStep x = true := hf x List.mem_cons_self
    have hf' : ForkOnly rest := fun y hy => hf y (List.mem_cons_of_mem _ hy)
    have hdx : (stepHist cfg sem st x).dead = false := by
      cases hdd : (stepHist cfg sem st x).dead with
      | false => rfl
      | true =>
        have : runHist cfg sem st (x :: rest) = stepHist cfg sem st x := runHist_dead rest hdd
        rw [this, hdd] at hd'; cases hd'
    obtain ⟨l', r'⟩ := step_rel hi hd x hx hlen hr hdx
    exact ih (stepHist_inv hi x) hdx hf' l' r' hd'

end SV

/-! ## B. the client view under the fork resolver's step contract -/
namespace SV.Fk
open SV SV.Lin

/-- a block reference: number and id -/
abbrev Blk := Nat × Bytes
/-- what the client holds per block: number, id, payload -/
abbrev Held := Nat × Bytes × Bytes

def key (h : Held) : Blk := (h.1, h.2.1)

/-! ### the step contract of the fork resolver (`bstream/forkable`)

State of the contract: the stack `stk` of applied, not undone blocks (top first) and the junction `r` of
the reorg in progress (`none` outside a reorg). -/

/-- * `new`/`newFinal b`: `b` is above the top of the stack; during a reorg only once the stack is back at
  the announced junction;
* `undo b j`: `b` is the top of the stack, a junction is given (`j.id ≠ []`), `j` lies in the stack strictly
  below `b`, and all undos of one reorg announce the same junction;
* `stalled`/`final`: no condition (they do not touch the stack).
Nothing is asked of parent links, and on an empty stack any `new` block is accepted. -/
def okStep (stk : List Blk) (r : Option Blk) (s : FStep) : Bool :=
  match s.kind with
  | .new | .newFinal =>
    match stk with
    | [] => true
    | top :: _ => decide (top.1 < s.num) && (r == none || r == some top)
  | .undo =>
    match stk with
    | [] => false
    | top :: below =>
      top == (s.num, s.id) && s.jId != [] && below.contains (s.jNum, s.jId) &&
        (r == none || r == some (s.jNum, s.jId))
  | _ => true

def nextStk (stk : List Blk) (s : FStep) : List Blk :=
  match s.kind with
  | .new | .newFinal => (s.num, s.id) :: stk
  | .undo => stk.tail
  | _ => stk

def nextReorg (r : Option Blk) (s : FStep) : Option Blk :=
  match s.kind with
  | .new | .newFinal => none
  | .undo => some (s.jNum, s.jId)
  | _ => r

def validFrom : List Blk → Option Blk → List FStep → Bool
  | _, _, [] => true
  | stk, r, s :: rest => okStep stk r s && validFrom (nextStk stk s) (nextReorg r s) rest

theorem validFrom_of_append (l post : List FStep) : ∀ (stk : List Blk) (r : Option Blk),
    validFrom stk r (l ++ post) = true → validFrom stk r l = true := by
  induction l with
  | nil => intro _ _ _; rfl
  | cons s rest ih =>
    intro stk r h
    simp only [List.cons_append, validFrom, Bool.and_eq_true] at h ⊢
    exact ⟨h.1, ih _ _ h.2⟩

def ValidSteps (steps : List FStep) : Prop := validFrom [] none steps = true

instance (steps : List FStep) : Decidable (ValidSteps steps) := by unfold ValidSteps; infer_instance

/-- the canonical chain after the steps, oldest block first -/
def canonChain (steps : List FStep) : List Blk := (steps.foldl nextStk []).reverse

/-- the junction of the reorg the steps end in (`none`: they do not end inside a reorg) -/
def reorgAfter (steps : List FStep) : Option Blk := steps.foldl nextReorg none

/-- the pipeline at the beginning of the linear part: any store state, nothing recorded, gate closed -/
def fs0 (st0 : LState) : FState := ⟨st0, [], none, false, [], false⟩

/-- the output-module payload `handleNew` computes for block `num` on the store state `st` -/
def newPayload (cfg : FCfg) (st : LState) (num : Nat) (id : Bytes) : Bytes :=
  match runBlockF cfg st num id with
  | .ok acc => (outputOf cfg.output acc.outs).getD []
  | .error _ => []

/-- the canonical chain with, for each block, the payload computed when it was (last) applied -/
def nextChain (cfg : FCfg) (fs : FState) (C : List Held) (s : FStep) : List Held :=
  match s.kind with
  | .new | .newFinal => (s.num, s.id, newPayload cfg fs.st s.num s.id) :: C
  | .undo => C.tail
  | _ => C

/-- `nextChain` along the steps; the pipeline state is threaded only for `newPayload` to be evaluated on it -/
def chainFrom (cfg : FCfg) : FState → List Held → List FStep → List Held
  | _, C, [] => C
  | fs, C, s :: rest => chainFrom cfg (stepF cfg fs s) (nextChain cfg fs C s) rest

def payloadChain (cfg : FCfg) (st0 : LState) (steps : List FStep) : List Held :=
  (chainFrom cfg (fs0 st0) [] steps).reverse

theorem nextChain_key (cfg : FCfg) (fs : FState) (C : List Held) (s : FStep) :
    (nextChain cfg fs C s).map key = nextStk (C.map key) s := by
  unfold nextChain nextStk
  cases s.kind <;> simp [key, List.map_tail]

theorem chainFrom_key (cfg : FCfg) (steps : List FStep) : ∀ (fs : FState) (C : List Held),
    (chainFrom cfg fs C steps).map key = steps.foldl nextStk (C.map key) := by
  induction steps with
  | nil => intro fs C; rfl
  | cons s rest ih => intro fs C; simp only [chainFrom, List.foldl_cons, ih, nextChain_key]

/-! ### `stepF` -/

theorem handleNew_spec (cfg : FCfg) (fs : FState) (s : FStep) :
    ((handleNew cfg fs s).ended = true ∧ (handleNew cfg fs s).msgs = fs.msgs) ∨
    ((handleNew cfg fs s).ended = fs.ended ∧ (handleNew cfg fs s).insideReorg = none ∧
      (handleNew cfg fs s).msgs =
        if fs.gateOpen ∧ s.num ≥ cfg.gateStart then fs.msgs ++ [.data s.num s.id (newPayload cfg fs.st s.num s.id)]
        else fs.msgs) := by
  unfold handleNew newPayload
  by_cases hstop : cfg.stop ≠ 0 ∧ s.num ≥ cfg.stop
  · rw [if_pos hstop]; exact Or.inl ⟨rfl, rfl⟩
  · rw [if_neg hstop]
    cases runBlockF cfg fs.st s.num s.id with
    | error e => exact Or.inl ⟨rfl, rfl⟩
    | ok acc => exact Or.inr ⟨rfl, rfl, rfl⟩

theorem gate_new (cfg : FCfg) (o : Bool) (s : FStep) (hk : s.kind = .new ∨ s.kind = .newFinal) :
    (gateStep cfg o s = true ∧ s.num ≥ cfg.gateStart) ↔ cfg.gateStart ≤ s.num := by
  unfold gateStep
  rcases hk with hk | hk <;> cases o <;> simp [hk]

theorem stepF_new (cfg : FCfg) (fs : FState) (s : FStep) (he : fs.ended = false)
    (hk : s.kind = .new ∨ s.kind = .newFinal) :
    ((stepF cfg fs s).ended = true ∧ (stepF cfg fs s).msgs = fs.msgs) ∨
    ((stepF cfg fs s).ended = false ∧ (stepF cfg fs s).insideReorg = none ∧
      (stepF cfg fs s).msgs =
        if cfg.gateStart ≤ s.num then fs.msgs ++ [.data s.num s.id (newPayload cfg fs.st s.num s.id)] else fs.msgs) := by
  have hs := handleNew_spec cfg { fs with gateOpen := gateStep cfg fs.gateOpen s } s
  simp only [gate_new cfg fs.gateOpen s hk] at hs
  unfold stepF
  rw [if_neg (by rw [he]; exact Bool.false_ne_true)]
  rcases hk with hk | hk
  · rw [hk]; exact hs.imp id fun h => ⟨h.1.trans he, h.2⟩
  · rw [hk]
    -- `handleFinal` touches neither `ended` nor `msgs`, and leaves `insideReorg = none`
    rcases hs with hs | hs
    · exact Or.inl (by dsimp only; rw [if_pos hs.1]; exact hs)
    · refine Or.inr ?_
      dsimp only
      rw [if_neg (by rw [hs.1, he]; exact Bool.false_ne_true)]
      exact ⟨hs.1.trans he, rfl, hs.2.2⟩

theorem stepF_undo (cfg : FCfg) (fs : FState) (s : FStep) (he : fs.ended = false) (hk : s.kind = .undo)
    (hj : s.jId ≠ []) :
    (stepF cfg fs s).ended = false ∧ (stepF cfg fs s).insideReorg = some (s.jNum, s.jId) ∧
    (stepF cfg fs s).msgs =
      if fs.insideReorg = some (s.jNum, s.jId) then fs.msgs else fs.msgs ++ [.undo s.jNum s.jId] := by
  -- with a junction given (`jId ≠ []`) the `same` test of `stepF` says `fs.insideReorg = some (jNum, jId)`;
  -- the three cases below evaluate it
  unfold stepF
  simp only [he, Bool.false_eq_true, ↓reduceIte, hk]
  cases hi : fs.insideReorg with
  | none =>
    simp only [hj, decide_false, Bool.false_eq_true, ↓reduceIte, reduceCtorEq]
    exact ⟨trivial, trivial, trivial⟩
  | some p =>
    obtain ⟨n, i⟩ := p
    by_cases hsame : n = s.jNum ∧ i = s.jId
    · obtain ⟨h1, h2⟩ := hsame
      subst h1; subst h2
      simp only [hj, ne_eq, not_false_eq_true, and_self, decide_true, ↓reduceIte]
    · have : decide (s.jId ≠ [] ∧ n = s.jNum ∧ i = s.jId) = false :=
        decide_eq_false fun h => hsame h.2
      have hne : ¬ some (n, i) = some (s.jNum, s.jId) := fun hc => hsame (Prod.mk.inj (Option.some.inj hc))
      simp only [this, Bool.false_eq_true, ↓reduceIte, hj, hne]
      exact ⟨trivial, trivial, trivial⟩

theorem stepF_final (cfg : FCfg) (fs : FState) (s : FStep) (he : fs.ended = false) (hk : s.kind = .final) :
    (stepF cfg fs s).ended = false ∧ (stepF cfg fs s).msgs = fs.msgs ∧ (stepF cfg fs s).insideReorg = none := by
  unfold stepF
  simp only [he, Bool.false_eq_true, ↓reduceIte, hk]
  exact ⟨rfl, rfl, rfl⟩

theorem stepF_stalled (cfg : FCfg) (fs : FState) (s : FStep) (he : fs.ended = false) (hk : s.kind = .stalled) :
    (stepF cfg fs s).ended = false ∧ (stepF cfg fs s).msgs = fs.msgs ∧
    (stepF cfg fs s).insideReorg = fs.insideReorg := by
  unfold stepF
  simp only [he, Bool.false_eq_true, ↓reduceIte, hk]
  exact ⟨trivial, trivial, trivial⟩

theorem stepF_ended (cfg : FCfg) (fs : FState) (s : FStep) (he : fs.ended = true) : stepF cfg fs s = fs := by
  unfold stepF; simp [he]

theorem runSteps_ended (cfg : FCfg) (steps : List FStep) : ∀ (fs : FState), fs.ended = true →
    runSteps cfg fs steps = fs := by
  induction steps with
  | nil => intro fs _; rfl
  | cons s rest ih =>
    intro fs he
    show runSteps cfg (stepF cfg fs s) rest = fs
    rw [stepF_ended cfg fs s he, ih fs he]

theorem undos_same_junction (cfg : FCfg) (jn : Nat) (ji : Bytes) (hj : ji ≠ []) (us : List FStep) :
    ∀ fs : FState, fs.ended = false → (∀ u ∈ us, u.kind = .undo ∧ u.jNum = jn ∧ u.jId = ji) →
    (runSteps cfg fs us).ended = false ∧
    (runSteps cfg fs us).msgs =
      if fs.insideReorg = some (jn, ji) ∨ us = [] then fs.msgs else fs.msgs ++ [.undo jn ji] := by
  induction us with
  | nil => intro fs he _; exact ⟨he, by simp [runSteps]⟩
  | cons u rest ih =>
    intro fs he hu
    obtain ⟨hk, h1, h2⟩ := hu u List.mem_cons_self
    have hst := stepF_undo cfg fs u he hk (by rw [h2]; exact hj)
    rw [h1, h2] at hst
    obtain ⟨e1, e2, e3⟩ := hst
    have ihr := ih (stepF cfg fs u) e1 (fun v hv => hu v (List.mem_cons_of_mem _ hv))
    show (runSteps cfg (stepF cfg fs u) rest).ended = false ∧ (runSteps cfg (stepF cfg fs u) rest).msgs = _
    refine ⟨ihr.1, ?_⟩
    rw [ihr.2, if_pos (Or.inl e2), e3]
    exact ite_congr (propext (or_iff_left (List.cons_ne_nil u rest)).symm) (fun _ => rfl) (fun _ => rfl)

theorem stepF_msgs_of_ended (cfg : FCfg) (fs : FState) (s : FStep) (he : fs.ended = false)
    (he' : (stepF cfg fs s).ended = true) : (stepF cfg fs s).msgs = fs.msgs := by
  cases hk : s.kind with
  | new =>
    rcases stepF_new cfg fs s he (Or.inl hk) with ⟨_, e2⟩ | ⟨e1, _⟩
    · exact e2
    · rw [e1] at he'; cases he'
  | newFinal =>
    rcases stepF_new cfg fs s he (Or.inr hk) with ⟨_, e2⟩ | ⟨e1, _⟩
    · exact e2
    · rw [e1] at he'; cases he'
  | stalled => exact (stepF_stalled cfg fs s he hk).2.1
  | final => exact (stepF_final cfg fs s he hk).2.1
  | undo =>
    by_cases hj : s.jId = []
    · unfold stepF
      simp only [he, Bool.false_eq_true, ↓reduceIte, hk, hj]
      split <;> rfl
    · have := (stepF_undo cfg fs s he hk hj).1
      rw [this] at he'; cases he'

theorem runSteps_ended_prefix (cfg : FCfg) (steps : List FStep) : ∀ fs : FState, fs.ended = false →
    (runSteps cfg fs steps).ended = true →
    ∃ pre s post, steps = pre ++ s :: post ∧ (runSteps cfg fs pre).ended = false ∧
      (runSteps cfg fs steps).msgs = (runSteps cfg fs pre).msgs := by
  induction steps with
  | nil => intro fs he he'; rw [show runSteps cfg fs [] = fs from rfl, he] at he'; cases he'
  | cons s rest ih =>
    intro fs he he'
    cases h1 : (stepF cfg fs s).ended with
    | true =>
      refine ⟨[], s, rest, rfl, he, ?_⟩
      show (runSteps cfg (stepF cfg fs s) rest).msgs = fs.msgs
      rw [runSteps_ended cfg rest _ h1]
      exact stepF_msgs_of_ended cfg fs s he h1
    | false =>
      obtain ⟨pre, s', post, e1, e2, e3⟩ := ih (stepF cfg fs s) h1 he'
      exact ⟨s :: pre, s', post, by rw [e1]; rfl, e2, e3⟩

/-! ### `client` -/

/-- what the client holds: outside a reorg the canonical chain from the start block on; during a reorg to
junction `j` what is left of it up to `j` (the client dropped to `j` at the first undo signal) -/
def viewOf (g : Nat) (C : List Held) (r : Option Blk) : List Held :=
  match r with
  | none => C.reverse.filter (fun h => decide (g ≤ h.1))
  | some j => (C.reverse.filter (fun h => decide (g ≤ h.1))).filter (fun h => decide (h.1 ≤ j.1))

theorem client_snoc (msgs : List FMsg) (m : FMsg) : client (msgs ++ [m]) = clientStep (client msgs) m := by
  simp [client, List.foldl_append]

def Desc (C : List Held) : Prop := C.Pairwise (fun x y => y.1 < x.1)

theorem view_push (g : Nat) (h : Held) (C : List Held) :
    viewOf g (h :: C) none = viewOf g C none ++ (if g ≤ h.1 then [h] else []) := by
  unfold viewOf
  simp only [List.reverse_cons, List.filter_append, List.filter_cons, List.filter_nil]
  by_cases hg : g ≤ h.1 <;> simp [hg]

theorem view_at_junction (g : Nat) (t : Held) (C : List Held) (hd : Desc (t :: C)) :
    viewOf g (t :: C) (some (key t)) = viewOf g (t :: C) none := by
  unfold viewOf
  dsimp only
  apply List.filter_eq_self.2
  intro a ha
  have ha' : a ∈ t :: C := List.mem_reverse.1 (List.mem_filter.1 ha).1
  show decide (a.1 ≤ t.1) = true
  rcases List.mem_cons.1 ha' with rfl | hm
  · exact decide_eq_true (Nat.le_refl _)
  · exact decide_eq_true (Nat.le_of_lt ((List.pairwise_cons.1 hd).1 a hm))

theorem view_pop (g : Nat) (t : Held) (C : List Held) (j : Blk) (hj : j.1 < t.1) :
    viewOf g (t :: C) (some j) = viewOf g C (some j) := by
  unfold viewOf
  simp only [List.reverse_cons, List.filter_append, List.filter_cons, List.filter_nil]
  have : ¬ t.1 ≤ j.1 := by omega
  by_cases hg : g ≤ t.1 <;> simp [hg, this]

theorem view_filter_some (g : Nat) (C : List Held) (j : Blk) :
    (viewOf g C (some j)).filter (fun h => decide (h.1 ≤ j.1)) = viewOf g C (some j) := by
  unfold viewOf
  dsimp only
  rw [List.filter_filter]
  simp only [Bool.and_self]

theorem view_sorted (g : Nat) (C : List Held) (r : Option Blk) (hd : Desc C) :
    ((viewOf g C r).map (·.1)).Pairwise (· < ·) := by
  have h1 : C.reverse.Pairwise (fun x y => x.1 < y.1) := List.pairwise_reverse.2 hd
  rw [List.pairwise_map]
  unfold viewOf
  cases r with
  | none => exact h1.filter _
  | some j => exact (h1.filter _).filter _

theorem mem_view_of_mem {g : Nat} {C : List Held} {r : Option Blk} {y : Held} (hy : y ∈ C) (hg : g ≤ y.1)
    (hr : ∀ j, r = some j → y.1 ≤ j.1) : y ∈ viewOf g C r := by
  unfold viewOf
  cases r with
  | none => exact List.mem_filter.2 ⟨List.mem_reverse.2 hy, by simpa using hg⟩
  | some j =>
    exact List.mem_filter.2 ⟨List.mem_filter.2 ⟨List.mem_reverse.2 hy, by simpa using hg⟩, by simpa using hr j rfl⟩

theorem ge_of_mem_view {g : Nat} {C : List Held} {r : Option Blk} {y : Held} (hy : y ∈ viewOf g C r) : g ≤ y.1 := by
  unfold viewOf at hy
  cases r with
  | none => simpa using (List.mem_filter.1 hy).2
  | some j => simpa using (List.mem_filter.1 (List.mem_filter.1 hy).1).2

/-- `inside`: the pipeline's `insideReorg` is unset (no undo signal sent yet) or is the contract's junction -/
structure Main (cfg : FCfg) (C : List Held) (r : Option Blk) (fs : FState) : Prop where
  desc     : Desc C
  junction : ∀ j, r = some j → j ∈ C.map key
  inside   : fs.insideReorg = none ∨ fs.insideReorg = r
  view     : client fs.msgs = viewOf cfg.gateStart C r

def UndoOk (held : List Held) (n : Nat) (i : Bytes) : Prop :=
  held = [] ∨ (∃ p, (n, i, p) ∈ held) ∨ (∃ h, held.head? = some h ∧ n < h.1)

structure Safe (msgs : List FMsg) : Prop where
  incr : ∀ pre, pre <+: msgs → ((client pre).map (·.1)).Pairwise (· < ·)
  undo : ∀ pre n i, (pre ++ [FMsg.undo n i]) <+: msgs → UndoOk (client pre) n i

theorem Safe.nil : Safe [] := by
  constructor
  · intro pre hp
    have : pre = [] := List.prefix_nil.1 hp
    subst this; simp [client]
  · intro pre n i hp
    have := List.prefix_nil.1 hp
    simp at this

theorem Safe.snoc {msgs : List FMsg} (h : Safe msgs) (m : FMsg)
    (h1 : ((client (msgs ++ [m])).map (·.1)).Pairwise (· < ·))
    (h2 : ∀ n i, m = .undo n i → UndoOk (client msgs) n i) : Safe (msgs ++ [m]) := by
  constructor
  · intro pre hp
    rcases List.prefix_concat_iff.1 hp with rfl | hp
    · exact h1
    · exact h.incr pre hp
  · intro pre n i hp
    rcases List.prefix_concat_iff.1 hp with he | hp
    · obtain ⟨e1, e2⟩ := List.append_inj' he rfl
      subst e1
      injection e2 with e2
      exact h2 n i e2.symm
    · exact h.undo pre n i hp

theorem undoOk_view {g : Nat} {C : List Held} {r : Option Blk} {y : Held} (hy : y ∈ C)
    (hr : ∀ j, r = some j → y.1 ≤ j.1) : UndoOk (viewOf g C r) y.1 y.2.1 := by
  by_cases hg : g ≤ y.1
  · exact Or.inr (Or.inl ⟨y.2.2, mem_view_of_mem hy hg hr⟩)
  · cases hv : viewOf g C r with
    | nil => exact Or.inl rfl
    | cons a rest =>
      have := ge_of_mem_view (hv ▸ List.mem_cons_self : a ∈ viewOf g C r)
      exact Or.inr (Or.inr ⟨a, rfl, by omega⟩)

theorem okStep_new {top : Blk} {rest : List Blk} {r : Option Blk} {s : FStep}
    (hk : s.kind = .new ∨ s.kind = .newFinal) (h : okStep (top :: rest) r s = true) :
    top.1 < s.num ∧ (r = none ∨ r = some top) := by
  have h' : (decide (top.1 < s.num) && (r == none || r == some top)) = true := by
    unfold okStep at h
    rcases hk with hk | hk <;> rw [hk] at h <;> exact h
  rw [Bool.and_eq_true, decide_eq_true_eq, Bool.or_eq_true, beq_iff_eq, beq_iff_eq] at h'
  exact h'

theorem okStep_undo {stk : List Blk} {r : Option Blk} {s : FStep} (hk : s.kind = .undo)
    (h : okStep stk r s = true) : ∃ below, stk = (s.num, s.id) :: below ∧ s.jId ≠ [] ∧
      (s.jNum, s.jId) ∈ below ∧ (r = none ∨ r = some (s.jNum, s.jId)) := by
  unfold okStep at h
  rw [hk] at h
  cases stk with
  | nil => cases h
  | cons top below =>
    simp only [Bool.and_eq_true, beq_iff_eq, bne_iff_ne, ne_eq, List.contains_iff_mem, Bool.or_eq_true] at h
    obtain ⟨⟨⟨h1, h2⟩, h3⟩, h4⟩ := h
    exact ⟨below, by rw [h1], h2, h3, h4⟩

theorem step_main_new (cfg : FCfg) {C : List Held} {r : Option Blk} {fs : FState} (s : FStep)
    (hk : s.kind = .new ∨ s.kind = .newFinal)
    (hok : okStep (C.map key) r s = true) (he : fs.ended = false) (hm : Main cfg C r fs) (hs : Safe fs.msgs) :
    Safe (stepF cfg fs s).msgs ∧
    ((stepF cfg fs s).ended = true ∨
      Main cfg ((s.num, s.id, newPayload cfg fs.st s.num s.id) :: C) none (stepF cfg fs s)) := by
  rcases stepF_new cfg fs s he hk with ⟨e1, e2⟩ | ⟨e1, e2, e3⟩
  · rw [e2]; exact ⟨hs, Or.inl e1⟩
  -- the new block is above the whole chain, and the client holds the chain up to its top: a reorg in
  -- progress has reached its junction
  have hC : (∀ y ∈ C, y.1 < s.num) ∧ viewOf cfg.gateStart C r = viewOf cfg.gateStart C none := by
    cases C with
    | nil =>
      refine ⟨nofun, ?_⟩
      cases r with
      | none => rfl
      | some j => exact (List.not_mem_nil (hm.junction j rfl)).elim
    | cons t C0 =>
      obtain ⟨hlt, hr⟩ := okStep_new hk hok
      refine ⟨fun y hy => ?_, ?_⟩
      · rcases List.mem_cons.1 hy with rfl | hy
        · exact hlt
        · exact Nat.lt_trans ((List.pairwise_cons.1 hm.desc).1 y hy) hlt
      · rcases hr with rfl | rfl
        · rfl
        · exact view_at_junction _ t C0 hm.desc
  have hmain : Main cfg ((s.num, s.id, newPayload cfg fs.st s.num s.id) :: C) none (stepF cfg fs s) := by
    refine ⟨List.pairwise_cons.2 ⟨hC.1, hm.desc⟩, nofun, Or.inl e2, ?_⟩
    rw [e3, view_push, ← hC.2, ← hm.view]
    by_cases hg : cfg.gateStart ≤ s.num
    · rw [if_pos hg, if_pos hg, client_snoc]; rfl
    · rw [if_neg hg, if_neg hg, List.append_nil]
  refine ⟨?_, Or.inr hmain⟩
  rw [e3]
  by_cases hg : cfg.gateStart ≤ s.num
  · rw [if_pos hg]
    refine hs.snoc _ ?_ nofun
    have hv := hmain.view
    rw [e3, if_pos hg] at hv
    rw [hv]; exact view_sorted _ _ _ hmain.desc
  · rw [if_neg hg]; exact hs

theorem step_main_undo (cfg : FCfg) {C : List Held} {r : Option Blk} {fs : FState} (s : FStep)
    (hk : s.kind = .undo)
    (hok : okStep (C.map key) r s = true) (he : fs.ended = false) (hm : Main cfg C r fs) (hs : Safe fs.msgs) :
    Safe (stepF cfg fs s).msgs ∧ (stepF cfg fs s).ended = false ∧
      Main cfg C.tail (some (s.jNum, s.jId)) (stepF cfg fs s) := by
  obtain ⟨below, hstk, hjid, hjmem, hr⟩ := okStep_undo hk hok
  cases C with
  | nil => cases hstk
  | cons t C0 =>
    obtain ⟨_, rfl⟩ := List.cons.inj hstk
    -- the junction `y` is a block of the chain strictly below the undone block `t`
    obtain ⟨y, hy, hyk⟩ := List.mem_map.1 hjmem
    have hd := List.pairwise_cons.1 hm.desc
    have hy1 : y.1 = s.jNum := congrArg Prod.fst hyk
    have hjlt : (s.jNum, s.jId).1 < t.1 := hy1 ▸ hd.1 y hy
    have hpop := view_pop cfg.gateStart t C0 (s.jNum, s.jId) hjlt
    obtain ⟨e1, e2, e3⟩ := stepF_undo cfg fs s he hk hjid
    have hmain : client (stepF cfg fs s).msgs = viewOf cfg.gateStart C0 (some (s.jNum, s.jId)) →
        Main cfg C0 (some (s.jNum, s.jId)) (stepF cfg fs s) := fun hview =>
      ⟨hd.2, fun j hj => Option.some.inj hj ▸ hjmem, Or.inr e2, hview⟩
    by_cases a1 : fs.insideReorg = some (s.jNum, s.jId)
    · -- already inside this reorg: no message, the client dropped to the junction before
      have a2 := e3.trans (if_pos a1)
      have hr' : r = some (s.jNum, s.jId) := hm.inside.elim (fun h => nomatch h.symm.trans a1) (fun h => h ▸ a1)
      rw [a2]
      exact ⟨hs, e1, hmain (by rw [a2, hm.view, hr']; exact hpop)⟩
    · -- the undo signal: the client drops what it holds above the junction
      have b2 := e3.trans (if_neg a1)
      have hview : client (fs.msgs ++ [.undo s.jNum s.jId]) = viewOf cfg.gateStart C0 (some (s.jNum, s.jId)) := by
        rw [client_snoc, hm.view]
        show (viewOf cfg.gateStart (t :: C0) r).filter (fun h => decide (h.1 ≤ (s.jNum, s.jId).1)) = _
        rcases hr with rfl | rfl
        · exact hpop
        · rw [view_filter_some]; exact hpop
      have hM := hmain (by rw [b2]; exact hview)
      rw [b2]
      refine ⟨hs.snoc _ (by rw [hview]; exact view_sorted _ _ _ hM.desc) ?_, e1, hM⟩
      intro n i hc
      injection hc with hn hi
      subst hn; subst hi
      have := undoOk_view (g := cfg.gateStart) (r := r) (List.mem_cons_of_mem t hy) fun j hj => by
        rcases hr with h | h
        · rw [h] at hj; cases hj
        · rw [h] at hj; cases hj; exact Nat.le_of_eq hy1
      have hy2 : y.2.1 = s.jId := congrArg Prod.snd hyk
      rwa [hy1, hy2, ← hm.view] at this

theorem step_main (cfg : FCfg) {C : List Held} {r : Option Blk} {fs : FState} (s : FStep)
    (hok : okStep (C.map key) r s = true) (hs : Safe fs.msgs) (hm : fs.ended = true ∨ Main cfg C r fs) :
    Safe (stepF cfg fs s).msgs ∧
    ((stepF cfg fs s).ended = true ∨ Main cfg (nextChain cfg fs C s) (nextReorg r s) (stepF cfg fs s)) := by
  by_cases he : fs.ended = true
  · rw [stepF_ended cfg fs s he]; exact ⟨hs, Or.inl he⟩
  have hm : Main cfg C r fs := hm.resolve_left he
  have he : fs.ended = false := eq_false_of_ne_true he
  cases hk : s.kind with
  | new =>
    have := step_main_new cfg s (Or.inl hk) hok he hm hs
    simpa only [nextChain, nextReorg, hk] using this
  | newFinal =>
    have := step_main_new cfg s (Or.inr hk) hok he hm hs
    simpa only [nextChain, nextReorg, hk] using this
  | undo =>
    obtain ⟨a, _, c⟩ := step_main_undo cfg s hk hok he hm hs
    refine ⟨a, Or.inr ?_⟩
    simpa only [nextChain, nextReorg, hk] using c
  | stalled =>
    obtain ⟨e1, e2, e3⟩ := stepF_stalled cfg fs s he hk
    rw [e2]
    refine ⟨hs, Or.inr ?_⟩
    simp only [nextChain, nextReorg, hk]
    exact ⟨hm.desc, hm.junction, by rw [e3]; exact hm.inside, by rw [e2]; exact hm.view⟩
  | final =>
    obtain ⟨e1, e2, e3⟩ := stepF_final cfg fs s he hk
    rw [e2]
    refine ⟨hs, Or.inr ?_⟩
    simp only [nextChain, nextReorg, hk]
    exact ⟨hm.desc, hm.junction, Or.inl e3, by rw [e2]; exact hm.view⟩

theorem run_main (cfg : FCfg) (steps : List FStep) : ∀ (fs : FState) (C : List Held) (r : Option Blk),
    validFrom (C.map key) r steps = true → Safe fs.msgs → (fs.ended = true ∨ Main cfg C r fs) →
    Safe (runSteps cfg fs steps).msgs ∧
    ((runSteps cfg fs steps).ended = true ∨
      Main cfg (chainFrom cfg fs C steps) (steps.foldl nextReorg r) (runSteps cfg fs steps)) := by
  induction steps with
  | nil => intro fs C r _ hs hm; exact ⟨hs, hm⟩
  | cons s rest ih =>
    intro fs C r hv hs hm
    simp only [validFrom, Bool.and_eq_true] at hv
    show Safe (runSteps cfg (stepF cfg fs s) rest).msgs ∧ ((runSteps cfg (stepF cfg fs s) rest).ended = true ∨
      Main cfg (chainFrom cfg (stepF cfg fs s) (nextChain cfg fs C s) rest) (rest.foldl nextReorg (nextReorg r s))
        (runSteps cfg (stepF cfg fs s) rest))
    obtain ⟨a, b⟩ := step_main cfg s hv.1 hs hm
    exact ih _ _ _ (by rw [nextChain_key]; exact hv.2) a b

theorem Main.init (cfg : FCfg) (st0 : LState) : Main cfg [] none (fs0 st0) :=
  ⟨List.Pairwise.nil, (by intro j hj; cases hj), Or.inl rfl, rfl⟩

theorem chainFrom_origin (cfg : FCfg) (steps : List FStep) : ∀ (fs : FState) (C : List Held) (h : Held),
    h ∈ chainFrom cfg fs C steps → h ∈ C ∨ ∃ pre s post, steps = pre ++ s :: post ∧
      (s.kind = .new ∨ s.kind = .newFinal) ∧ h = (s.num, s.id, newPayload cfg (runSteps cfg fs pre).st s.num s.id) := by
  induction steps with
  | nil => intro fs C h hm; exact Or.inl hm
  | cons s rest ih =>
    intro fs C h hm
    rcases ih _ _ h hm with h1 | ⟨pre, s', post, e1, e2, e3⟩
    · unfold nextChain at h1
      cases hk : s.kind <;> simp only [hk] at h1
      · rcases List.mem_cons.1 h1 with rfl | h1
        · exact Or.inr ⟨[], s, rest, rfl, Or.inl hk, rfl⟩
        · exact Or.inl h1
      · rcases List.mem_cons.1 h1 with rfl | h1
        · exact Or.inr ⟨[], s, rest, rfl, Or.inr hk, rfl⟩
        · exact Or.inl h1
      · exact Or.inl (List.mem_of_mem_tail h1)
      · exact Or.inl h1
      · exact Or.inl h1
    · exact Or.inr ⟨s :: pre, s', post, by rw [e1]; rfl, e2, e3⟩

end SV.Fk
