import Lemmas.StoreHist
import Model.History
/-! Through every step of `stepHist` the size stays exact and the deltas of the blocks that can still be undone chain back
from the current content (`stepHist_inv`, `runHist_inv`). -/
namespace SV

/-- the stacked deltas of the applied blocks chain back from the current content -/
def StackInv (cur : Content) : List (List Delta) → Prop
  | [] => True
  | ds :: rest => ∃ f, Chain f ds ∧ postF f ds = cur ∧ StackInv f rest

theorem StackInv.dropLast : ∀ {stack : List (List Delta)} {cur : Content},
    StackInv cur stack → StackInv cur stack.dropLast
  | [], _, _ => trivial
  | [_], _, _ => trivial
  | ds :: d2 :: rest, cur, h => by
    obtain ⟨f, h1, h2, h3⟩ := h
    exact ⟨f, h1, h2, StackInv.dropLast (stack := d2 :: rest) h3⟩

/-- the fold is the loop of `Model.merge`, which the model does not name -/
theorem mergeFold_inv {cfg : Cfg} : ∀ (l : KV) (acc : Option (Except SErr Store)) (s' : Store),
    (∀ s, acc = some (.ok s) → SInv s) →
    l.foldl (fun (acc : Option (Except SErr Store)) kv =>
      match acc with
      | some (.ok s) => mergeKey cfg s kv.1 kv.2
      | other => other) acc = some (.ok s') → SInv s' := by
  intro l
  induction l with
  | nil => intro acc s' h hf; exact h s' hf
  | cons p rest ih =>
    intro acc s' h hf
    refine ih _ s' (fun s hs => ?_) hf
    dsimp only at hs
    split at hs
    · exact mergeKey_inv (h _ rfl) hs
    · exact h s hs

theorem merge_inv {cfg : Cfg} {sem : Sem} {s s' : Store} {p : Partial} (hc : Clean s)
    (hm : merge cfg sem s p = some (.ok s')) : SInv s' := by
  revert hm
  fun_cases merge cfg sem s p with
  | case1 => exact nofun
  | case2 wd s0 hf r s1 hr =>
    rintro ⟨⟩
    -- the prefixes are recorded as `deletePrefix` operations: a fold of `record`
    have hcl : Clean wd := by unfold wd; rw [← List.foldl_map]; exact hc.record_fold _
    obtain ⟨b, i1, _⟩ := flush_inv hcl hf
    have := mergeFold_inv p.store.kv (some (.ok s0)) s1 (fun t ht => by cases ht; exact i1.sinv) hr
    exact ⟨this.nodup, this.size⟩
  | case3 _ _ _ _ hne => exact fun hm => absurd hm (hne s')

structure HInv (st : HState) : Prop where
  sinv  : SInv st.s
  stack : StackInv (look st.s.kv) st.stack

theorem stepHist_inv {cfg : Cfg} {sem : Sem} {st : HState} (h : HInv st) (x : Hist) :
    HInv (stepHist cfg sem st x) := by
  fun_cases stepHist cfg sem st x with
  | case1 => exact h                            -- dead already
  | case2 => exact ⟨h.sinv, h.stack⟩            -- block: fails
  | case3 _ calls s' hb =>                      -- block: executed
    obtain ⟨b, i1, _⟩ := execBlock_inv h.sinv.reset hb
    exact ⟨i1.sinv, look st.s.kv, i1.chain, i1.kvpost.symm, h.stack⟩
  | case4 => exact h                            -- undo: nothing to undo
  | case5 _ ds rest hs =>                       -- undo
    have hst := h.stack
    rw [hs] at hst
    obtain ⟨f, c1, c2, c3⟩ := hst
    obtain ⟨u1, u2, u3⟩ := undo_spec f ds st.s c1 c2.symm h.sinv.nodup h.sinv.size
    exact ⟨⟨u2, u3⟩, u1 ▸ c3⟩
  | case6 => exact ⟨h.sinv, h.stack.dropLast⟩   -- final
  -- merge: done, failed, not at rest
  | case7 _ p he s' hm => exact ⟨merge_inv h.sinv.reset hm, he ▸ trivial⟩
  | case8 => exact ⟨h.sinv, h.stack⟩
  | case9 => exact h
  -- saveLoad: at rest, not at rest
  | case10 _ he => exact ⟨⟨h.sinv.nodup, rfl⟩, he ▸ trivial⟩
  | case11 => exact h

theorem runHist_inv {cfg : Cfg} {sem : Sem} (hs : List Hist) : ∀ st : HState, HInv st → HInv (runHist cfg sem st hs) := by
  induction hs with
  | nil => intro st h; exact h
  | cons x rest ih => intro st h; exact ih _ (stepHist_inv h x)

end SV
