import Model.Linear
import Lemmas.History
import Props.C09
/-!
The linear specification `Model/Linear.lean` against its segmented and cached executions (C01, C07).
Segments: `runBlocks_add` is the one law, `runSegments` folds it. Caches: a module's `Step` carries the entry it
files in the block's output, `runModuleC_hit` says that taking this entry from the cache replaces the execution;
`foldC_eq`, `runBlockC_eq_of_ok`, `runBlocksC_eq_of_agrees` lift this to a block (`CacheOK`) and a run (`Agrees`);
`cacheOf_agrees_of` with `findBlock_shift` is where agreement with another run's files comes from.
`Props.C09` is imported for `replay_full` only; the last section serves C03.
-/
namespace SV.Lin
open SV

def glue (r1 r2 : RunRes) : RunRes := ⟨r2.st, r1.blocks ++ r2.blocks, r2.failed⟩

theorem runBlocks_add (w : World) (md : Nat) (n1 n2 b : Nat) (st : LState) :
    runBlocks w md (n1 + n2) b st =
      match (runBlocks w md n1 b st).failed with
      | none => glue (runBlocks w md n1 b st) (runBlocks w md n2 (b + n1) (runBlocks w md n1 b st).st)
      | some _ => runBlocks w md n1 b st := by
  fun_induction runBlocks w md n1 b st with
  | case1 b st => simp only [Nat.zero_add, glue, List.nil_append, Nat.add_zero]
  | case2 n b st e hb => rw [Nat.succ_add, runBlocks, hb]
  | case3 n b st st' outs hb r ih =>
    rw [Nat.succ_add, runBlocks, hb]
    dsimp only
    rw [ih]
    cases hf : (runBlocks w md n (b + 1) st').failed with
    | some f => dsimp only; rw [hf]
    | none => simp only [glue, List.cons_append, Nat.add_assoc, Nat.add_comm 1 n]; rfl

theorem runBlocks_range (w : World) (md : Nat) (n b : Nat) (st : LState) :
    ∀ p ∈ (runBlocks w md n b st).blocks, b ≤ p.1 ∧ p.1 < b + n := by
  fun_induction runBlocks w md n b st with
  | case1 => nofun
  | case2 => nofun
  | case3 n b st st' outs hb r ih =>
    intro p hp
    rcases List.mem_cons.1 hp with rfl | hp
    · exact ⟨Nat.le_refl _, by omega⟩
    · have := ih p hp; omega

/-- one segment job: if an earlier segment failed nothing more is executed (the request has failed at
that block); otherwise `n` blocks are executed from the state reached at the segment's start boundary
`acc.2` and their per-block results are appended -/
def segStep (w : World) (md : Nat) (acc : RunRes × Nat) (n : Nat) : RunRes × Nat :=
  match acc.1.failed with
  | some _ => acc
  | none => (glue acc.1 (runBlocks w md n acc.2 acc.1.st), acc.2 + n)

def runSegments (w : World) (md : Nat) (ns : List Nat) (b : Nat) (st : LState) : RunRes :=
  (ns.foldl (segStep w md) (⟨st, [], none⟩, b)).1

theorem segFold_failed (w : World) (md : Nat) : ∀ (ns : List Nat) (acc : RunRes × Nat) (f : Nat),
    acc.1.failed = some f → ns.foldl (segStep w md) acc = acc := by
  intro ns
  induction ns with
  | nil => intro acc f _; rfl
  | cons n ns ih =>
    intro acc f h
    have : segStep w md acc n = acc := by unfold segStep; rw [h]
    rw [List.foldl_cons, this]
    exact ih acc f h

theorem segFold_eq (w : World) (md : Nat) : ∀ (ns : List Nat) (acc : RunRes) (b : Nat),
    acc.failed = none →
    (ns.foldl (segStep w md) (acc, b)).1 = glue acc (runBlocks w md ns.sum b acc.st) := by
  intro ns
  induction ns with
  | nil =>
    intro acc b h
    simp only [List.foldl_nil, List.sum_nil, runBlocks, glue, List.append_nil]
    cases acc; simp_all
  | cons n ns ih =>
    intro acc b h
    have e : segStep w md (acc, b) n = (glue acc (runBlocks w md n b acc.st), b + n) := by
      unfold segStep; simp only [h]
    rw [List.foldl_cons, e, List.sum_cons, runBlocks_add]
    cases hf : (runBlocks w md n b acc.st).failed with
    | some f =>
      rw [segFold_failed w md ns _ f (by simpa [glue] using hf)]
    | none =>
      rw [ih _ _ (by simpa [glue] using hf)]
      simp only [glue, List.append_assoc]

def findBlock (blocks : List (Nat × BlockOut)) (b' : Nat) : Option (Nat × BlockOut) :=
  blocks.find? (fun p => p.1 == b')

theorem findBlock_append (l1 l2 : List (Nat × BlockOut)) (b' : Nat) :
    findBlock (l1 ++ l2) b' = (findBlock l1 b').or (findBlock l2 b') := by
  unfold findBlock
  rw [List.find?_append]

theorem findBlock_cons (b : Nat) (bo : BlockOut) (rest : List (Nat × BlockOut)) (b' : Nat) :
    findBlock ((b, bo) :: rest) b' = if b = b' then some (b, bo) else findBlock rest b' := by
  unfold findBlock
  rw [List.find?_cons]
  by_cases h : b = b'
  · rw [if_pos h, beq_iff_eq.2 h]
  · rw [if_neg h, beq_eq_false_iff_ne.2 h]

theorem findBlock_some_fst {blocks : List (Nat × BlockOut)} {b' : Nat} {p : Nat × BlockOut}
    (h : findBlock blocks b' = some p) : p.1 = b' ∧ p ∈ blocks := by
  unfold findBlock at h
  exact ⟨by simpa using List.find?_some h, List.mem_of_find?_eq_some h⟩

theorem findBlock_outside (w : World) (md n b : Nat) (st : LState) {b' : Nat} (h : b' < b ∨ b + n ≤ b') :
    findBlock (runBlocks w md n b st).blocks b' = none := by
  unfold findBlock
  rw [List.find?_eq_none]
  intro p hp hb
  have := runBlocks_range w md n b st p hp
  have := eq_of_beq hb
  omega

theorem findBlock_longer (w : World) (md : Nat) (n k b : Nat) (st : LState) (b' : Nat) (hb' : b' < b + n) :
    findBlock (runBlocks w md (n + k) b st).blocks b' = findBlock (runBlocks w md n b st).blocks b' := by
  rw [runBlocks_add]
  cases hf : (runBlocks w md n b st).failed with
  | some f => rfl
  | none =>
    simp only [glue, findBlock_append]
    rw [findBlock_outside w md k (b + n) _ (Or.inl hb'), Option.or_none]

theorem findBlock_same_start (w : World) (md : Nat) (n n' b : Nat) (st : LState) (b' : Nat) (p : Nat × BlockOut)
    (hlt : b' < b + n) (hf : findBlock (runBlocks w md n' b st).blocks b' = some p) :
    findBlock (runBlocks w md n b st).blocks b' = some p := by
  rcases Nat.le_total n n' with hle | hle
  · obtain ⟨k, rfl⟩ := Nat.exists_eq_add_of_le hle
    rw [← findBlock_longer w md n k b st b' hlt]; exact hf
  · obtain ⟨k, rfl⟩ := Nat.exists_eq_add_of_le hle
    have := runBlocks_range w md n' b st p (findBlock_some_fst hf).2
    rw [findBlock_longer w md n' k b st b' (by have := (findBlock_some_fst hf).1; omega)]; exact hf

theorem findBlock_shift (w : World) (md : Nat) (k m b0 : Nat) (st0 : LState) {b' : Nat}
    (hk : (runBlocks w md k b0 st0).failed = none) (hge : b0 + k ≤ b') :
    findBlock (runBlocks w md (k + m) b0 st0).blocks b' =
      findBlock (runBlocks w md m (b0 + k) (runBlocks w md k b0 st0).st).blocks b' := by
  rw [runBlocks_add, hk]
  simp only [glue, findBlock_append]
  rw [findBlock_outside w md k b0 st0 (Or.inr hge), Option.none_or]

/-- every store of the state has distinct keys and an exact size (`SInv`); nothing is asked of the
deltas/log a store carries (`reset` clears them before the next block) -/
def LInv (st : LState) : Prop := ∀ p ∈ st.stores, SInv p.2

theorem LInv.empty : LInv ⟨[]⟩ := by intro p hp; simp at hp

theorem LInv.getStore {st : LState} (h : LInv st) (n : Bytes) : SInv (getStore st n) := by
  unfold Lin.getStore
  cases hf : st.stores.find? (fun p => p.1 == n) with
  | none => exact ⟨List.Pairwise.nil, rfl⟩
  | some p => exact h p (List.mem_of_find?_eq_some hf)

theorem LInv.setStore {st : LState} (h : LInv st) (n : Bytes) (s : Store) (hs : SInv s) :
    LInv (setStore st n s) := by
  unfold Lin.setStore
  split
  · intro p hp
    simp only [List.mem_map] at hp
    obtain ⟨q, hq, rfl⟩ := hp
    split
    · exact hs
    · exact h q hq
  · intro p hp
    simp only [List.mem_append, List.mem_singleton] at hp
    rcases hp with hp | hp
    · exact h p hp
    · subst hp; exact hs

theorem LInv.resetAll {st : LState} (h : LInv st) : LInv (resetAll st) := by
  intro p hp
  simp only [Lin.resetAll, List.mem_map] at hp
  obtain ⟨q, hq, rfl⟩ := hp
  exact ⟨(h q hq).nodup, (h q hq).size⟩

/-- what the output file of a block holds for module `name` (the per-block part of `cacheOf`) -/
def entryOf (bo : BlockOut) (name : Bytes) : Option Cached :=
  match bo.outs.find? (fun q => q.1 == name) with
  | some q => some (.out q.2)
  | none =>
    match bo.logs.find? (fun q => q.1 == name) with
    | some q => some (.log q.2)
    | none => none

theorem cacheOf_eq (blocks : List (Nat × BlockOut)) (sel : Bytes → Nat → Bool) (name : Bytes) (b : Nat) :
    cacheOf blocks sel name b =
      if sel name b then
        match findBlock blocks b with
        | none => none
        | some p => entryOf p.2 name
      else none := rfl

theorem find?_snoc_ne {α : Type} {l : List (Bytes × α)} {name n : Bytes} {v : α} (h : name ≠ n) :
    (l ++ [(name, v)]).find? (fun q => q.1 == n) = l.find? (fun q => q.1 == n) := by
  rw [List.find?_append, List.find?_cons_of_neg (by simpa using h), List.find?_nil, Option.or_none]

theorem find?_snoc_self {α : Type} {l : List (Bytes × α)} {name : Bytes} {v : α}
    (h : l.find? (fun q => q.1 == name) = none) :
    (l ++ [(name, v)]).find? (fun q => q.1 == name) = some (name, v) := by
  rw [List.find?_append, h, Option.none_or, List.find?_cons, beq_self_eq_true]

theorem entryOf_eq_none {bo : BlockOut} {name : Bytes} :
    entryOf bo name = none ↔
      bo.outs.find? (fun q => q.1 == name) = none ∧ bo.logs.find? (fun q => q.1 == name) = none := by
  unfold entryOf
  cases bo.outs.find? (fun q => q.1 == name) with
  | some q => exact ⟨nofun, fun h => nomatch h.1⟩
  | none =>
    cases bo.logs.find? (fun q => q.1 == name) with
    | some q => exact ⟨nofun, fun h => nomatch h.2⟩
    | none => exact ⟨fun _ => ⟨rfl, rfl⟩, fun _ => rfl⟩

/-! ### `runModule` -/

/-- the three things `runModule` can do, each with the entry it leaves in the block's output file under the
module's name: nothing (not started, filtered out, skipped, empty output skipped), a map/index output, or
the operation log of an executed store block -/
inductive Step (acc : BlockAcc) (m : ModSpec) : Option Cached → BlockAcc → Prop
  | same : Step acc m none acc
  | out (v : Bytes) : m.kind ≠ .store → Step acc m (some (.out v)) { acc with outs := acc.outs ++ [(m.name, v)] }
  | store (calls : List Op) (s' : Store) : m.kind = .store →
      execBlock (cfgOf m) (stdSem (cfgOf m)) (reset (getStore acc.st m.name)) calls = .ok s' →
      Step acc m (some (.log (readOps s')))
        { acc with st := setStore acc.st m.name s', deltas := acc.deltas ++ [(m.name, s'.deltas)],
                   logs := acc.logs ++ [(m.name, readOps s')] }

theorem execModule_step {w : World} {b : Nat} {acc acc1 : BlockAcc} {m : ModSpec}
    (h : execModule w b acc m = .ok acc1) : ∃ e, Step acc m e acc1 := by
  revert h
  -- the branches of `execModule`: 1 `canSkip`, 2 the scripted failure, 3–5 a map (acts / skips its empty
  -- output / emits it), 6 an index, 7 `hostOp` rejects a value, 8 `execBlock` fails, 9 a store block
  fun_cases execModule w b acc m with
  | case1 => intro h; cases h; exact ⟨_, .same⟩
  | case2 => nofun
  | case3 => intro h; cases h; exact ⟨_, .out _ (by rw [‹m.kind = MK.map›]; decide)⟩
  | case4 => intro h; cases h; exact ⟨_, .same⟩
  | case5 => intro h; cases h; exact ⟨_, .out _ (by rw [‹m.kind = MK.map›]; decide)⟩
  | case6 => intro h; cases h; exact ⟨_, .out _ (by rw [‹m.kind = MK.index›]; decide)⟩
  | case7 => nofun
  | case8 => nofun
  | case9 => intro h; cases h; exact ⟨_, .store _ _ ‹m.kind = MK.store› (by assumption)⟩

theorem runModule_step {w : World} {md b : Nat} {acc acc1 : BlockAcc} {m : ModSpec}
    (h : runModule w md b acc m = .ok acc1) : ∃ e, Step acc m e acc1 := by
  unfold runModule at h
  split at h
  · cases h; exact ⟨_, .same⟩
  split at h
  · cases h
  · cases h; exact ⟨_, .same⟩
  · exact execModule_step h

theorem Step.linv {acc acc1 : BlockAcc} {m : ModSpec} {e : Option Cached} (h : Step acc m e acc1)
    (hi : LInv acc.st) : LInv acc1.st := by
  cases h with
  | same => exact hi
  | out v _ => exact hi
  | store calls s' _ hs' =>
    obtain ⟨bd, i1, _⟩ := execBlock_inv (hi.getStore m.name).reset hs'
    exact hi.setStore _ _ i1.sinv

theorem Step.entry_other {acc acc1 : BlockAcc} {m : ModSpec} {e : Option Cached} (h : Step acc m e acc1)
    {n : Bytes} (hn : m.name ≠ n) :
    entryOf ⟨acc1.outs, acc1.logs⟩ n = entryOf ⟨acc.outs, acc.logs⟩ n := by
  cases h with
  | same => rfl
  | out v _ => unfold entryOf; dsimp only; rw [find?_snoc_ne hn]
  | store calls s' _ _ => unfold entryOf; dsimp only; rw [find?_snoc_ne hn]

theorem Step.entry_self {acc acc1 : BlockAcc} {m : ModSpec} {e : Option Cached} (h : Step acc m e acc1)
    (h0 : entryOf ⟨acc.outs, acc.logs⟩ m.name = none) : entryOf ⟨acc1.outs, acc1.logs⟩ m.name = e := by
  obtain ⟨h1, h2⟩ := entryOf_eq_none.1 h0
  cases h with
  | same => exact h0
  | out v _ => unfold entryOf; dsimp only; rw [find?_snoc_self h1]
  | store calls s' _ _ => unfold entryOf; dsimp only; rw [h1]; dsimp only; rw [find?_snoc_self h2]

theorem foldlM_cons_eq {α β ε : Type} {f : β → α → Except ε β} {a a' : β} {x : α} {xs : List α}
    (h : f a x = .ok a') : (x :: xs).foldlM f a = xs.foldlM f a' := by
  rw [List.foldlM_cons, h]; rfl

theorem fold_frame {w : World} {md b : Nat} : ∀ (ms : List ModSpec) (acc accF : BlockAcc),
    ms.foldlM (runModule w md b) acc = .ok accF →
    (LInv acc.st → LInv accF.st) ∧
    ∀ n, n ∉ ms.map (·.name) → entryOf ⟨accF.outs, accF.logs⟩ n = entryOf ⟨acc.outs, acc.logs⟩ n := by
  intro ms
  induction ms with
  | nil => intro acc accF h; cases h; exact ⟨id, fun _ _ => rfl⟩
  | cons m ms ih =>
    intro acc accF h
    obtain ⟨acc1, h1, h⟩ := foldlM_cons_of_ok h
    obtain ⟨_, st⟩ := runModule_step h1
    obtain ⟨hl, he⟩ := ih acc1 accF h
    refine ⟨fun hi => hl (st.linv hi), fun n hn => ?_⟩
    rw [he n (fun hm => hn (List.mem_cons_of_mem _ hm)),
      st.entry_other (fun hEq => hn (List.mem_map.2 ⟨m, List.mem_cons_self, hEq⟩))]

/-! ### `runModuleC` -/

theorem runModuleC_miss {w : World} {md b : Nat} {c : Cache} {acc : BlockAcc} {m : ModSpec}
    (h : c m.name b = none) : runModuleC w md c b acc m = runModule w md b acc m := by
  unfold runModuleC runModule
  rw [h]

/-- a hit whose content is the entry the module's execution leaves gives the same accumulator: a map/index
output is appended as is; a store's log is replayed, and the replay on the (clean, by the invariant)
pre-block store gives exactly the executed store (`SV.C09.replay_full`) -/
theorem runModuleC_hit {w : World} {md b : Nat} {c : Cache} {acc acc1 : BlockAcc} {m : ModSpec}
    {e : Option Cached} (hi : LInv acc.st) (hrun : runModule w md b acc m = .ok acc1) (st : Step acc m e acc1)
    (hc : c m.name b = none ∨ c m.name b = e) : runModuleC w md c b acc m = .ok acc1 := by
  cases e with
  | none => rw [runModuleC_miss (hc.elim id id)]; exact hrun
  | some x =>
    rcases hc with hc | hc
    · rw [runModuleC_miss hc]; exact hrun
    unfold runModule at hrun
    unfold runModuleC
    by_cases hb : b < m.init
    · rw [if_pos hb] at hrun ⊢; exact hrun
    rw [if_neg hb] at hrun ⊢
    cases hfs : filterSkip md acc m with
    | error err => rw [hfs] at hrun; cases hrun
    | ok t =>
      rw [hfs] at hrun
      cases t with
      | true => exact hrun
      | false =>
        dsimp only
        rw [hc]
        cases st with
        | out v hk =>
          cases hk' : m.kind with
          | map => rfl
          | index => rfl
          | store => exact absurd hk' hk
        | store calls s' hk hs' =>
          rw [hk]
          dsimp only
          -- the replay starts from the very store the execution started from: `SameState` holds by `rfl`
          rw [SV.C09.replay_full (hi.getStore m.name).reset rfl ⟨rfl, rfl, rfl, rfl⟩ hs']

/-! ### `runBlockC` -/

def CacheOK (c : Cache) (b : Nat) (bo : BlockOut) : Prop :=
  ∀ name, c name b = none ∨ c name b = entryOf bo name

/-- Over the remaining modules `ms` of a block: if their names are distinct and nothing is filed under them
yet, the final block output holds under a module's name what this very module filed, so every cache entry taken
from the final output replaces the execution without changing the accumulator. -/
theorem foldC_eq {w : World} {md b : Nat} {c : Cache} : ∀ (ms : List ModSpec) (acc accF : BlockAcc),
    (ms.map (·.name)).Nodup →
    (∀ m ∈ ms, entryOf ⟨acc.outs, acc.logs⟩ m.name = none) →
    LInv acc.st →
    ms.foldlM (runModule w md b) acc = .ok accF →
    (∀ m ∈ ms, c m.name b = none ∨ c m.name b = entryOf ⟨accF.outs, accF.logs⟩ m.name) →
    ms.foldlM (runModuleC w md c b) acc = .ok accF := by
  intro ms
  induction ms with
  | nil => intro acc accF _ _ _ h _; exact h
  | cons m ms ih =>
    intro acc accF hn h0 hi h hc
    rw [List.map_cons, List.nodup_cons] at hn
    obtain ⟨acc1, h1, h⟩ := foldlM_cons_of_ok h
    obtain ⟨e, st⟩ := runModule_step h1
    have hent : entryOf ⟨accF.outs, accF.logs⟩ m.name = e :=
      ((fold_frame ms acc1 accF h).2 m.name hn.1).trans (st.entry_self (h0 m List.mem_cons_self))
    rw [foldlM_cons_eq (runModuleC_hit hi h1 st (hent ▸ hc m List.mem_cons_self))]
    refine ih acc1 accF hn.2 (fun m' hm' => ?_) (st.linv hi) h fun m' hm' => hc m' (List.mem_cons_of_mem _ hm')
    rw [st.entry_other (fun hEq => hn.1 (hEq ▸ List.mem_map_of_mem hm')), h0 m' (List.mem_cons_of_mem _ hm')]

theorem runBlock_ok {w : World} {md b : Nat} {st st' : LState} {bo : BlockOut}
    (h : runBlock w md st b = .ok (st', bo)) :
    ∃ accF, w.foldlM (runModule w md b) ⟨st, [], [], []⟩ = .ok accF ∧ st' = resetAll accF.st ∧
      bo = ⟨accF.outs, accF.logs⟩ := by
  unfold runBlock at h
  cases hf : w.foldlM (runModule w md b) ⟨st, [], [], []⟩ with
  | error e => rw [hf] at h; cases h
  | ok accF => rw [hf] at h; cases h; exact ⟨accF, rfl, rfl, rfl⟩

theorem runBlock_linv {w : World} {md b : Nat} {st st' : LState} {bo : BlockOut} (hi : LInv st)
    (h : runBlock w md st b = .ok (st', bo)) : LInv st' := by
  obtain ⟨accF, hf, rfl, _⟩ := runBlock_ok h
  exact ((fold_frame w _ accF hf).1 hi).resetAll

theorem runBlocks_linv {w : World} {md : Nat} (n b : Nat) (st : LState) :
    LInv st → LInv (runBlocks w md n b st).st := by
  fun_induction runBlocks w md n b st with
  | case1 => exact id
  | case2 => exact id
  | case3 n b st st' outs hb r ih => exact fun hi => ih (runBlock_linv hi hb)

theorem runBlockC_eq_of_ok {w : World} {md b : Nat} {c : Cache} {st st' : LState} {bo : BlockOut}
    (hn : (w.map (·.name)).Nodup) (hi : LInv st)
    (h : runBlock w md st b = .ok (st', bo)) (hc : CacheOK c b bo) :
    runBlockC w md c st b = .ok (st', bo) := by
  obtain ⟨accF, hf, rfl, rfl⟩ := runBlock_ok h
  unfold runBlockC
  rw [foldC_eq w ⟨st, [], [], []⟩ accF hn (fun _ _ => rfl) hi hf (fun m _ => hc m.name)]

theorem runBlockC_eq_of_miss {w : World} {md b : Nat} {c : Cache} {st : LState}
    (hc : ∀ name, c name b = none) : runBlockC w md c st b = runBlock w md st b := by
  unfold runBlockC runBlock
  have : runModuleC w md c b = runModule w md b := by
    funext acc m; exact runModuleC_miss (hc m.name)
  rw [this]

/-! ### `runBlocksC`, `cacheOf` -/

def Agrees (c : Cache) (blocks : List (Nat × BlockOut)) (b n : Nat) : Prop :=
  ∀ b' name, b ≤ b' → b' < b + n →
    c name b' = none ∨ ∃ p, findBlock blocks b' = some p ∧ c name b' = entryOf p.2 name

theorem Agrees.nil {c : Cache} {b n : Nat} (h : Agrees c [] b (n + 1)) (name : Bytes) : c name b = none := by
  rcases h b name (Nat.le_refl _) (by omega) with h | ⟨p, hp, _⟩
  · exact h
  · cases hp

theorem Agrees.head {c : Cache} {b n : Nat} {bo : BlockOut} {rest : List (Nat × BlockOut)}
    (h : Agrees c ((b, bo) :: rest) b (n + 1)) : CacheOK c b bo := by
  intro name
  rcases h b name (Nat.le_refl _) (by omega) with h | ⟨p, hp, h⟩
  · exact Or.inl h
  · rw [findBlock_cons, if_pos rfl] at hp
    cases hp
    exact Or.inr h

theorem Agrees.tail {c : Cache} {b n : Nat} {bo : BlockOut} {rest : List (Nat × BlockOut)}
    (h : Agrees c ((b, bo) :: rest) b (n + 1)) : Agrees c rest (b + 1) n := by
  intro b' name h1 h2
  have := h b' name (by omega) (by omega)
  rwa [findBlock_cons, if_neg (by omega)] at this

theorem runBlocksC_eq_of_agrees {w : World} {md : Nat} {c : Cache} (hn : (w.map (·.name)).Nodup) :
    ∀ (n b : Nat) (st : LState), LInv st → Agrees c (runBlocks w md n b st).blocks b n →
      runBlocksC w md c n b st = runBlocks w md n b st := by
  intro n b st
  fun_induction runBlocks w md n b st with
  | case1 => exact fun _ _ => rfl
  | case2 n b st e hb =>
    intro _ ha
    rw [runBlocksC, runBlockC_eq_of_miss ha.nil, hb]
  | case3 n b st st' bo hb r ih =>
    intro hi ha
    rw [runBlocksC, runBlockC_eq_of_ok hn hi hb ha.head]
    dsimp only
    rw [ih (runBlock_linv hi hb) ha.tail]

/-- needs neither distinct names nor `LInv`: not an instance of `runBlocksC_eq_of_agrees` -/
theorem runBlocksC_empty {w : World} {md : Nat} {c : Cache} (hc : ∀ name b, c name b = none)
    (n b : Nat) (st : LState) : runBlocksC w md c n b st = runBlocks w md n b st := by
  fun_induction runBlocks w md n b st with
  | case1 => rfl
  | case2 n b st e hb => rw [runBlocksC, runBlockC_eq_of_miss (fun name => hc name b), hb]
  | case3 n b st st' bo hb r ih =>
    rw [runBlocksC, runBlockC_eq_of_miss (fun name => hc name b), hb]
    dsimp only
    rw [ih]

def SubCache (c' c : Cache) : Prop := ∀ name b, c' name b = none ∨ c' name b = c name b

theorem Agrees.subset {c c' : Cache} {blocks : List (Nat × BlockOut)} {b n : Nat}
    (h : Agrees c blocks b n) (hs : SubCache c' c) : Agrees c' blocks b n := by
  intro b' name h1 h2
  rcases hs name b' with h' | h'
  · exact Or.inl h'
  · rw [h']; exact h b' name h1 h2

/-- the first source wins -/
def unionCache (c1 c2 : Cache) : Cache := fun name b => (c1 name b).or (c2 name b)

theorem Agrees.union {c1 c2 : Cache} {blocks : List (Nat × BlockOut)} {b n : Nat}
    (h1 : Agrees c1 blocks b n) (h2 : Agrees c2 blocks b n) : Agrees (unionCache c1 c2) blocks b n := by
  intro b' name hb1 hb2
  unfold unionCache
  cases hc : c1 name b' with
  | none => rw [Option.none_or]; exact h2 b' name hb1 hb2
  | some x => rw [Option.some_or, ← hc]; exact h1 b' name hb1 hb2

theorem cacheOf_agrees_of {blocks' blocks : List (Nat × BlockOut)} {sel : Bytes → Nat → Bool} {b n : Nat}
    (h : ∀ b' p, b ≤ b' → b' < b + n → findBlock blocks' b' = some p → findBlock blocks b' = some p) :
    Agrees (cacheOf blocks' sel) blocks b n := by
  intro b' name h1 h2
  rw [cacheOf_eq]
  split
  · cases hf : findBlock blocks' b' with
    | none => exact Or.inl rfl
    | some p => exact Or.inr ⟨p, h b' p h1 h2 hf, rfl⟩
  · exact Or.inl rfl

theorem cacheOf_agrees (blocks : List (Nat × BlockOut)) (sel : Bytes → Nat → Bool) (b n : Nat) :
    Agrees (cacheOf blocks sel) blocks b n :=
  cacheOf_agrees_of fun _ _ _ _ hf => hf

theorem cacheOf_earlier_agrees (w : World) (md : Nat) (N k n b0 : Nat) (st0 : LState) (sel : Bytes → Nat → Bool)
    (hk : (runBlocks w md k b0 st0).failed = none) :
    Agrees (cacheOf (runBlocks w md N b0 st0).blocks sel)
      (runBlocks w md n (b0 + k) (runBlocks w md k b0 st0).st).blocks (b0 + k) n := by
  refine cacheOf_agrees_of fun b' p hge hlt hf => ?_
  rcases Nat.le_total N k with hle | hle
  · -- the other run ended before this one starts: it has nothing for `b'`
    rw [findBlock_outside w md N b0 st0 (Or.inr (by omega))] at hf
    cases hf
  · obtain ⟨n', rfl⟩ := Nat.exists_eq_add_of_le hle
    rw [findBlock_shift w md k n' b0 st0 hk hge] at hf
    exact findBlock_same_start w md n n' (b0 + k) _ b' p hlt hf

theorem cacheOf_other_agrees (w : World) (md : Nat) (n n' b : Nat) (st : LState) (sel : Bytes → Nat → Bool) :
    Agrees (cacheOf (runBlocks w md n' b st).blocks sel) (runBlocks w md n b st).blocks b n :=
  cacheOf_earlier_agrees w md n' 0 n b st sel rfl

theorem cacheOf_later_agrees (w : World) (md : Nat) (N k n b0 : Nat) (st0 : LState) (sel : Bytes → Nat → Bool)
    (hk : (runBlocks w md k b0 st0).failed = none) :
    Agrees (cacheOf (runBlocks w md N (b0 + k) (runBlocks w md k b0 st0).st).blocks sel)
      (runBlocks w md n b0 st0).blocks b0 n := by
  refine cacheOf_agrees_of fun b' p _ hlt hf => ?_
  have hr := runBlocks_range w md N (b0 + k) _ p (findBlock_some_fst hf).2
  have hb' := (findBlock_some_fst hf).1
  obtain ⟨n2, rfl⟩ := Nat.exists_eq_add_of_le (show k ≤ n by omega)
  rw [findBlock_shift w md k n2 b0 st0 hk (by omega)]
  exact findBlock_same_start w md n2 N (b0 + k) _ b' p (by omega) hf

theorem fold_idle {w : World} {md b : Nat} : ∀ (ms : List ModSpec) (acc : BlockAcc),
    (∀ m ∈ ms, b < m.init) → ms.foldlM (runModule w md b) acc = .ok acc := by
  intro ms
  induction ms with
  | nil => intro acc _; rfl
  | cons m ms ih =>
    intro acc h
    have h1 : runModule w md b acc m = .ok acc := by
      unfold runModule; simp only [h m (by simp), ↓reduceIte]
    rw [foldlM_cons_eq h1]
    exact ih acc (fun m' hm' => h m' (by simp [hm']))

theorem runBlocks_idle {w : World} {md : Nat} : ∀ (k b : Nat), (∀ m ∈ w, b + k ≤ m.init) →
    (runBlocks w md k b ⟨[]⟩).st = ⟨[]⟩ ∧ (runBlocks w md k b ⟨[]⟩).failed = none := by
  intro k
  induction k with
  | zero => intro b _; exact ⟨rfl, rfl⟩
  | succ k ih =>
    intro b h
    have hb : runBlock w md ⟨[]⟩ b = .ok (⟨[]⟩, ⟨[], []⟩) := by
      unfold runBlock
      rw [fold_idle w _ (fun m hm => by have := h m hm; omega)]
      rfl
    simp only [runBlocks, hb]
    exact ih (b + 1) (fun m hm => by have := h m hm; omega)

def lowestOf (u : World) (start : Nat) : Nat := u.foldl (fun acc m => min acc m.init) start

def linearRun (u : World) (maxDepth : Nat) (start stop : Nat) : RunRes :=
  runBlocks u maxDepth (stop - lowestOf u start) (lowestOf u start) ⟨[]⟩

/-- `linearSpec` with the blocks executed by `RunModule` with cached outputs -/
def linearSpecC (w : World) (maxDepth : Nat) (cache : Cache) (output : Bytes) (start stop : Nat) :
    (List (Nat × Option Bytes)) × Option Nat :=
  let u := usedMods w output
  let lowest := u.foldl (fun acc m => min acc m.init) start
  let r := runBlocksC u maxDepth cache (stop - lowest) lowest ⟨[]⟩
  ((r.blocks.filter (fun p => start ≤ p.1)).map (fun p => (p.1, outputOf output p.2.outs)), r.failed)

theorem usedMods_nodup {w : World} (output : Bytes) (h : (w.map (·.name)).Nodup) :
    ((usedMods w output).map (·.name)).Nodup := by
  unfold usedMods
  exact List.Nodup.sublist (List.Sublist.map _ List.filter_sublist) h

theorem lowestOf_le (w : World) : ∀ start, lowestOf w start ≤ start ∧ ∀ m ∈ w, lowestOf w start ≤ m.init := by
  unfold lowestOf
  induction w with
  | nil => exact fun a => ⟨Nat.le_refl _, fun m hm => nomatch hm⟩
  | cons x xs ih =>
    intro a
    obtain ⟨h1, h2⟩ := ih (min a x.init)
    rw [List.foldl_cons]
    refine ⟨by omega, fun m hm => ?_⟩
    rcases List.mem_cons.1 hm with rfl | hm
    · omega
    · exact h2 m hm

theorem lowestOf_le_start (w : World) (start : Nat) : lowestOf w start ≤ start := (lowestOf_le w start).1

theorem linearSpecC_eq_of {w : World} {md : Nat} {c : Cache} {output : Bytes} {start stop : Nat}
    (h : runBlocksC (usedMods w output) md c (stop - lowestOf (usedMods w output) start)
        (lowestOf (usedMods w output) start) ⟨[]⟩ = linearRun (usedMods w output) md start stop) :
    linearSpecC w md c output start stop = linearSpec w md output start stop :=
  congrArg (fun r : RunRes =>
    ((r.blocks.filter (fun p => start ≤ p.1)).map (fun p => (p.1, outputOf output p.2.outs)), r.failed)) h

/-- the cache files left by the linear run of ANY request (any start and stop block) on the same modules
agree with the linear run of this request: the two runs start from the empty state at blocks below which
nothing is executed, so one of them passes through the other's start state -/
theorem cacheOf_request_agrees (w : World) (md : Nat) (start stop start' stop' : Nat) (sel : Bytes → Nat → Bool) :
    Agrees (cacheOf (linearRun w md start' stop').blocks sel)
      (runBlocks w md (stop - lowestOf w start) (lowestOf w start) ⟨[]⟩).blocks
      (lowestOf w start) (stop - lowestOf w start) := by
  unfold linearRun
  rcases Nat.le_total (lowestOf w start') (lowestOf w start) with hle | hle
  · obtain ⟨k, hk⟩ := Nat.exists_eq_add_of_le hle
    obtain ⟨i1, i2⟩ := runBlocks_idle (w := w) (md := md) k (lowestOf w start')
      (fun m hm => by have := (lowestOf_le w start).2 m hm; omega)
    have := cacheOf_earlier_agrees w md (stop' - lowestOf w start') k (stop - lowestOf w start)
      (lowestOf w start') ⟨[]⟩ sel i2
    rw [i1, ← hk] at this
    exact this
  · obtain ⟨k, hk⟩ := Nat.exists_eq_add_of_le hle
    obtain ⟨i1, i2⟩ := runBlocks_idle (w := w) (md := md) k (lowestOf w start)
      (fun m hm => by have := (lowestOf_le w start').2 m hm; omega)
    have := cacheOf_later_agrees w md (stop' - lowestOf w start') k (stop - lowestOf w start)
      (lowestOf w start) ⟨[]⟩ sel i2
    rw [i1, ← hk] at this
    exact this

/-! ### `runModuleE` (for C03) -/

theorem execModuleE_self (w : World) (b : Nat) (acc : BlockAcc) (m : ModSpec) :
    execModuleE w b b acc m = execModule w b acc m := by
  unfold execModuleE
  by_cases hc : canSkip acc.outs acc.deltas m = true
  · unfold execModule; rw [if_pos hc, if_pos hc]
  by_cases hf : m.failAt = some b
  · unfold execModule; rw [if_neg hc, if_pos hf, if_neg hc, if_pos hf]
  -- `canSkip` and the script do not look at `failAt`
  rw [if_neg hc, if_neg hf]
  have hc' : canSkip acc.outs acc.deltas { m with failAt := none } = canSkip acc.outs acc.deltas m := rfl
  unfold execModule
  rw [hc', if_neg hc, if_neg hc, if_neg hf, if_neg nofun]
  rfl

theorem runModuleE_self (w : World) (d b : Nat) (acc : BlockAcc) (m : ModSpec) :
    runModuleE w d b b acc m = runModule w d b acc m := by
  unfold runModuleE runModule
  simp only [execModuleE_self]

end SV.Lin
