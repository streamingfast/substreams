import Model.Plan
import Lemmas.Resolve
/-! Lemmas about `Model/Plan.lean` for C12: every field of the plan `BuildTier1RequestPlan` returns, membership in its
ranges, segmenters that end on a boundary and what tier 2 recomputes, the unit ranges of `NextJob`. -/
namespace SV.Plan
open SV SV.Resolve

/-! ### `BuildTier1RequestPlan` -/

/-- `goRange?` differs from `Segmenter.range?` only in where it gives up. -/
theorem goRange_start {seg li stop idx : Nat} {r : Range} (hseg : 0 < seg)
    (h : goRange? ⟨seg, li, stop⟩ idx = some r) :
    r.start = max li (idx * seg) := by
  revert h
  fun_cases goRange? ⟨seg, li, stop⟩ idx
  case case1 => nofun
  case case3 => nofun
  case case2 _ _ heq =>
    intro h
    rw [Segmenter.firstRange] at h
    split at h <;> cases h
    exact heq ▸ (Nat.max_eq_left (Nat.div_mul_le_self li seg)).symm
  case case4 _ hlt hne _ =>
    intro h; cases h
    have : li < idx * seg := (Segmenter.firstIndex_lt_iff ⟨seg, li, stop⟩ hseg).1
      (Nat.lt_of_le_of_ne (Nat.le_of_not_lt hlt) (Ne.symm hne))
    exact (Nat.max_eq_right (Nat.le_of_lt this)).symm

/-- Only `writeExecOut` needs `0 < seg`: its start is that of the range `goRange?` gives for index `start / seg`. -/
structure PlanFields (production : Bool) (seg li lsi start handoff stop : Nat) (ss : Bool) (p : Plan) : Prop where
  le_start : li ≤ start
  seg_eq : p.seg = seg
  linear : p.linear = (if handoff < stop ∨ stop = 0 ∨ handoff = 0 then some ⟨handoff, stop⟩ else none)
  buildStores : p.buildStores = (if start = handoff ∧ li = start then none
      else if ss = true ∧ handoff > lsi then some ⟨lsi, handoff⟩ else none)
  readExecOut : p.readExecOut = (if production = true ∧ start < handoff
      then some ⟨start, if stop ≠ 0 ∧ stop < handoff then stop else handoff⟩ else none)
  writeExecOut : 0 < seg → p.writeExecOut = (if production = true ∧ start < handoff
      then some ⟨max li (start / seg * seg), handoff⟩ else none)

theorem buildPlan_ok {production : Bool} {seg li lsi start handoff stop : Nat} {ss : Bool} {p : Plan}
    (h : buildTier1RequestPlan production seg li lsi start handoff stop ss = .ok p) :
    PlanFields production seg li lsi start handoff stop ss p := by
  revert h
  fun_cases buildTier1RequestPlan production seg li lsi start handoff stop ss
  case case1 => nofun
  case case3 => nofun
  case case2 hli _ heq =>
    intro h; cases h
    have hn : ¬(production = true ∧ start < handoff) := fun hc => Nat.lt_irrefl _ (heq.1 ▸ hc.2)
    exact ⟨Nat.le_of_not_lt hli, rfl, rfl, (if_pos heq).symm, (if_neg hn).symm, fun _ => (if_neg hn).symm⟩
  case case4 hli _ _ hne hprod _ hlt _ _ r hr _ =>
    intro h; cases h
    refine ⟨Nat.le_of_not_lt hli, rfl, rfl, (if_neg hne).symm, (if_pos ⟨hprod, hlt⟩).symm, fun hseg => ?_⟩
    rw [if_pos ⟨hprod, hlt⟩]
    show some (Range.mk r.start handoff) = _
    rw [goRange_start hseg hr]
    show some (Range.mk (max li (max start li / seg * seg)) handoff) = _
    rw [Nat.max_eq_left (Nat.le_of_not_lt hli)]
  case case5 hli _ hne hprod _ hlt =>
    intro h; cases h
    have hn : ¬(production = true ∧ start < handoff) := fun hc => hlt hc.2
    exact ⟨Nat.le_of_not_lt hli, rfl, rfl, (if_neg hne).symm, (if_neg hn).symm, fun _ => (if_neg hn).symm⟩
  case case6 hli _ hne hprod _ =>
    intro h; cases h
    have hn : ¬(production = true ∧ start < handoff) := fun hc => hprod hc.1
    exact ⟨Nat.le_of_not_lt hli, rfl, rfl, (if_neg hne).symm, (if_neg hn).symm, fun _ => (if_neg hn).symm⟩

variable {env : Env} {m : Mods} {d : Details} {p : Plan}

/-! ### `planOfDetails` -/

theorem buildStores_eq_some_iff (hp : planOfDetails env m d = .ok p) {r : Range} :
    p.buildStores = some r ↔
      m.lowestStoresInitBlock env.fsb = some r.start ∧ r.start < d.handoff ∧ r.stop = d.handoff := by
  rw [(buildPlan_ok hp).buildStores]
  cases hls : m.lowestStoresInitBlock env.fsb with
  | none =>
    have hss : ¬(m.scheduleStores = true ∧ d.handoff > (none : Option Nat).getD 0) := fun hc => by
      rw [Mods.scheduleStores, (lowestStores_none_iff env.fsb m).1 hls] at hc
      cases hc.1
    rw [if_neg hss, ite_self]
    exact ⟨nofun, fun h => nomatch h.1⟩
  | some ls =>
    have hss : m.scheduleStores = true := by
      cases hne : m.reqStores with
      | nil => rw [(lowestStores_none_iff env.fsb m).2 hne] at hls; cases hls
      | cons _ _ => rw [Mods.scheduleStores, hne]; rfl
    have hli := lowestInit_le_lowestStores env.fsb m ls hls
    rw [Option.getD_some]
    by_cases hgt : d.handoff > ls
    · have hne : ¬(d.start = d.handoff ∧ m.lowestInitBlock env.fsb = d.start) := fun hc => by omega
      rw [if_neg hne, if_pos ⟨hss, hgt⟩]
      constructor
      · intro h; cases h; exact ⟨rfl, hgt, rfl⟩
      · rintro ⟨h1, _, h3⟩
        cases r; cases h1; cases h3; rfl
    · have h2 : ¬(m.scheduleStores = true ∧ d.handoff > ls) := fun hc => hgt hc.2
      rw [if_neg h2, ite_self]
      refine ⟨nofun, fun h => ?_⟩
      cases h.1
      exact absurd h.2.1 hgt

theorem writeExecOut_eq_some_iff (hp : planOfDetails env m d = .ok p) (hseg : 0 < env.seg) {w : Range} :
    p.writeExecOut = some w ↔ (d.production = true ∧ d.start < d.handoff) ∧
      w = ⟨max (m.lowestInitBlock env.fsb) (d.start / env.seg * env.seg), d.handoff⟩ := by
  rw [(buildPlan_ok hp).writeExecOut hseg, Option.ite_none_right_eq_some, Option.some.injEq]
  exact and_congr_right fun _ => eq_comm

theorem mem_readExecOut_iff (hp : planOfDetails env m d = .ok p) (b : Nat) :
    (∃ r, p.readExecOut = some r ∧ r.start ≤ b ∧ b < r.stop) ↔
      d.production = true ∧ d.start ≤ b ∧ b < d.handoff ∧ (d.stop = 0 ∨ b < d.stop) := by
  rw [(buildPlan_ok hp).readExecOut]
  constructor
  · rintro ⟨r, hr, h1, h2⟩
    obtain ⟨hc, hr⟩ := Option.ite_none_right_eq_some.1 hr
    cases hr
    refine ⟨hc.1, h1, ?_⟩
    simp only [] at h2
    split at h2 <;> omega
  · rintro ⟨hprod, h1, h2, h3⟩
    refine ⟨_, if_pos ⟨hprod, by omega⟩, h1, ?_⟩
    simp only []
    split <;> omega

theorem mem_linear_iff (hp : planOfDetails env m d = .ok p) (b : Nat) :
    (∃ r, p.linear = some r ∧ r.start ≤ b ∧ (r.stop = 0 ∨ b < r.stop)) ↔
      d.handoff ≤ b ∧ (d.stop = 0 ∨ b < d.stop) := by
  rw [(buildPlan_ok hp).linear]
  constructor
  · rintro ⟨r, hr, h1, h2⟩
    cases (Option.ite_none_right_eq_some.1 hr).2
    exact ⟨h1, h2⟩
  · rintro ⟨h1, h2⟩
    exact ⟨_, if_pos (by omega), h1, h2⟩

/-! ### `tier2Range` -/

theorem tier2StartBlock_eq (seg fsb n : Nat) : tier2StartBlock seg fsb n = max fsb (n * seg) :=
  Nat.max_def .. |>.symm

theorem tier2Range_eq (seg fsb idx : Nat) {raw : Nat} (h : raw = 0 ∨ fsb ≤ raw) :
    tier2Range seg fsb idx raw = ⟨max (mapInit fsb raw) (idx * seg), idx * seg + seg⟩ := by
  rw [mapInit_eq_max h, tier2Range, tier2StartBlock_eq, Nat.max_comm fsb raw, Nat.max_assoc]
  refine congrArg (Range.mk · _) ?_
  exact clip_eq_max raw _

/-! ### `Plan.unitOutcome` (`NextJob`) -/

variable {k : Plan.StageKind} {stageInit idx : Nat}

theorem unitOutcome_eq {g ks : Segmenter} {r : Range}
    (hg : p.backprocessSegmenter = some g) (hk : p.kindSegmenter k = some ks)
    (h1 : g.firstIndex ≤ idx) (h2 : idx ≤ g.lastIndex) (h3 : ks.firstIndex ≤ idx)
    (h4 : (⟨ks.interval, stageInit, ks.end_⟩ : Segmenter).firstIndex ≤ idx)
    (h5 : idx ≤ (⟨ks.interval, stageInit, ks.end_⟩ : Segmenter).lastIndex)
    (hr : (⟨ks.interval, stageInit, ks.end_⟩ : Segmenter).range? idx = some r) :
    p.unitOutcome k stageInit idx = if r.stop = r.start then .noJob else .job r := by
  unfold Plan.unitOutcome
  rw [hg, hk]
  simp only []
  rw [if_neg (by omega), if_neg (by omega), if_neg (by omega), if_neg (by omega), hr]

theorem backprocess_contains {ks : Segmenter} {H : Nat} (hk : p.kindSegmenter k = some ks)
    (hend : ∀ k' ks', p.kindSegmenter k' = some ks' → ks'.end_ = H) :
    ∃ g, p.backprocessSegmenter = some g ∧ g.interval = ks.interval ∧ g.init ≤ ks.init ∧
      g.end_ = ks.end_ := by
  have hS := hend .store
  have hM := hend .map
  unfold Plan.backprocessSegmenter
  cases k <;>
    simp only [Plan.kindSegmenter, Plan.storesSegmenter, Plan.writeOutSegmenter] at hk hS hM ⊢
  · cases hbs : p.buildStores with
    | none => rw [hbs] at hk; cases hk
    | some s =>
      rw [hbs] at hk hS; cases hk
      cases hws : p.writeExecOut with
      | none => exact ⟨_, rfl, rfl, Nat.le_refl _, rfl⟩
      | some w =>
        rw [hws] at hM
        refine ⟨_, rfl, rfl, Nat.min_le_left _ _, ?_⟩
        show max s.stop w.stop = s.stop
        rw [show s.stop = H from hS _ rfl, show w.stop = H from hM _ rfl, Nat.max_self]
  · cases hws : p.writeExecOut with
    | none => rw [hws] at hk; cases hk
    | some w =>
      rw [hws] at hk hM; cases hk
      cases hbs : p.buildStores with
      | none => exact ⟨_, rfl, rfl, Nat.le_refl _, rfl⟩
      | some s =>
        rw [hbs] at hS
        refine ⟨_, rfl, rfl, Nat.min_le_right _ _, ?_⟩
        show max s.stop w.stop = w.stop
        rw [show s.stop = H from hS _ rfl, show w.stop = H from hM _ rfl, Nat.max_self]

end SV.Plan
