import Model.Resolve
import Lemmas.Segmenter
/-! Lemmas about `Model/Resolve.lean` for C12 (in namespace `SV.Plan`, like their users in `Lemmas/Plan.lean`): segment
boundaries, the loops of `computeLowest*InitBlock` and `reprocStateRequired`, which path of `resolveStartBlockNum`
answered, what `BuildRequestDetails` returns, and what every return path of `computeLinearHandoffBlockNum` gives. -/
namespace SV.Plan
open SV SV.Resolve

/-! ### `nextBoundary` -/

theorem nextBoundary_mod (s k : Nat) : nextBoundary s k % k = 0 := by
  unfold nextBoundary
  split
  · rw [Nat.add_mod_right]; exact sub_mod_mod s k
  · rename_i h; exact Decidable.of_not_not h

theorem nextBoundary_ge (s k : Nat) (hk : 0 < k) : s ≤ nextBoundary s k := by
  unfold nextBoundary
  split
  · rw [sub_mod_eq, ← Nat.succ_mul]; exact Nat.le_of_lt (lt_div_succ_mul s k hk)
  · exact Nat.le_refl _

/-! ### `lowestOf` -/

theorem lowestOf_eq_none {l : List Nat} : lowestOf l = none ↔ l = [] := by
  cases l with
  | nil => simp [lowestOf]
  | cons x xs =>
    simp only [lowestOf]
    split <;> simp

theorem lowestOf_spec : ∀ {l : List Nat} {x : Nat}, lowestOf l = some x → x ∈ l ∧ ∀ y ∈ l, x ≤ y
  | [], x, h => by simp [lowestOf] at h
  | a :: xs, x, h => by
    simp only [lowestOf] at h
    split at h
    · rename_i hn
      injection h with h; subst h
      have := lowestOf_eq_none.1 hn; subst this
      simp
    · rename_i y hy
      injection h with h
      have ih := lowestOf_spec hy
      refine ⟨?_, ?_⟩
      · by_cases hc : a ≤ y
        · rw [Nat.min_eq_left hc] at h; subst h; simp
        · rw [Nat.min_eq_right (by omega)] at h; subst h; exact List.mem_cons_of_mem _ ih.1
      · intro z hz
        cases hz with
        | head => rw [← h]; exact Nat.min_le_left _ _
        | tail _ hz => rw [← h]; exact Nat.le_trans (Nat.min_le_right _ _) (ih.2 z hz)

theorem lowestOf_isSome_of_mem {l : List Nat} {y : Nat} (h : y ∈ l) : ∃ x, lowestOf l = some x := by
  cases hl : lowestOf l with
  | none => rw [lowestOf_eq_none.1 hl] at h; simp at h
  | some x => exact ⟨x, rfl⟩

/-! ### `reprocStateRequired` -/

/-- invariant of the loop: `acc` is the least element below `start` seen so far -/
def ReprocInv (start : Nat) (seen : List Nat) : Option Nat → Prop
  | none => ∀ s ∈ seen, start ≤ s
  | some x => x ∈ seen ∧ x < start ∧ ∀ s ∈ seen, s < start → x ≤ s

theorem reproc_step {start : Nat} {seen : List Nat} {acc : Option Nat} (s : Nat)
    (h : ReprocInv start seen acc) : ReprocInv start (seen ++ [s]) (reprocStep start acc s) := by
  have hmem : s ∈ seen ++ [s] := List.mem_append_right _ (List.mem_singleton_self s)
  cases acc with
  | none =>
    show ReprocInv _ _ (if s < start then some s else none)
    by_cases hlt : s < start
    · rw [if_pos hlt]
      exact ⟨hmem, hlt, List.forall_mem_append.2 ⟨fun t ht hts => absurd hts (Nat.not_lt.2 (h t ht)),
        List.forall_mem_singleton.2 fun _ => Nat.le_refl _⟩⟩
    · rw [if_neg hlt]
      exact List.forall_mem_append.2 ⟨h, List.forall_mem_singleton.2 (Nat.le_of_not_lt hlt)⟩
  | some x =>
    obtain ⟨hx1, hx2, hx3⟩ := h
    show ReprocInv _ _ (if s < start ∧ s < x then some s else some x)
    by_cases hlt : s < start ∧ s < x
    · rw [if_pos hlt]
      exact ⟨hmem, hlt.1, List.forall_mem_append.2
        ⟨fun t ht hts => Nat.le_trans (Nat.le_of_lt hlt.2) (hx3 t ht hts),
          List.forall_mem_singleton.2 fun _ => Nat.le_refl _⟩⟩
    · rw [if_neg hlt]
      exact ⟨List.mem_append_left _ hx1, hx2, List.forall_mem_append.2
        ⟨hx3, List.forall_mem_singleton.2 fun hs => Nat.le_of_not_lt fun hc => hlt ⟨hs, hc⟩⟩⟩

theorem reproc_foldl (start : Nat) : ∀ (rest seen : List Nat) (acc : Option Nat),
    ReprocInv start seen acc → ReprocInv start (seen ++ rest) (rest.foldl (reprocStep start) acc)
  | [], seen, acc, h => by rwa [List.append_nil]
  | s :: rest, seen, acc, h => by
    have := reproc_foldl start rest (seen ++ [s]) _ (reproc_step s h)
    rwa [List.append_assoc] at this

theorem reproc_inv (start : Nat) (l : List Nat) : ReprocInv start l (reprocStateRequired start l) :=
  reproc_foldl start l [] none nofun

theorem reproc_none {start : Nat} {l : List Nat} (h : reprocStateRequired start l = none) :
    ∀ s ∈ l, start ≤ s := by
  have := reproc_inv start l; rw [h] at this; exact this

theorem reproc_some {start : Nat} {l : List Nat} {x : Nat} (h : reprocStateRequired start l = some x) :
    x ∈ l ∧ x < start ∧ ∀ s ∈ l, x ≤ s := by
  have := reproc_inv start l; rw [h] at this
  refine ⟨this.1, this.2.1, ?_⟩
  intro s hs
  have hlt := this.2.1
  by_cases hc : s < start
  · exact this.2.2 s hs hc
  · omega

theorem reproc_eq_some_iff {start : Nat} {l : List Nat} {x : Nat} :
    reprocStateRequired start l = some x ↔ x ∈ l ∧ x < start ∧ ∀ s ∈ l, x ≤ s := by
  refine ⟨reproc_some, fun ⟨hmem, hlt, hmin⟩ => ?_⟩
  cases h : reprocStateRequired start l with
  | none => exact absurd hlt (Nat.not_lt.2 (reproc_none h x hmem))
  | some y =>
    obtain ⟨hy, _, hymin⟩ := reproc_some h
    exact congrArg some (Nat.le_antisymm (hymin x hmem) (hmin y hy))

/-! ### `computeLowestInitBlock`, `computeLowestStoresInitBlock`, `mapInit`

Both `computeLowest*InitBlock` take the lowest raw initial block and clip it at the first streamable block, and on a
graph that `NewOutputModuleGraph` accepts `mapInit` is the same clipping: all comparisons are between `max fsb _`. -/

theorem mapInit_eq_max {fsb raw : Nat} (h : raw = 0 ∨ fsb ≤ raw) : mapInit fsb raw = max fsb raw := by
  unfold mapInit
  split
  · rename_i h0; rw [h0]; exact (Nat.max_eq_left (Nat.zero_le _)).symm
  · rename_i h0; exact (Nat.max_eq_right (h.resolve_left h0)).symm

theorem clip_eq_max (fsb l : Nat) : (if l < fsb then fsb else l) = max fsb l := by
  split
  · exact (Nat.max_eq_left (Nat.le_of_lt ‹_›)).symm
  · exact (Nat.max_eq_right (Nat.le_of_not_lt ‹_›)).symm

theorem max_le_max_left (a : Nat) {b c : Nat} (h : b ≤ c) : max a b ≤ max a c :=
  Nat.max_le.2 ⟨Nat.le_max_left _ _, Nat.le_trans h (Nat.le_max_right _ _)⟩

theorem graphOk_iff (fsb : Nat) (m : Mods) :
    m.graphOk fsb = true ↔ (m.out = 0 ∨ fsb ≤ m.out) ∧ ∀ s ∈ m.stores, s = 0 ∨ fsb ≤ s := by
  simp [Mods.graphOk]

theorem mem_reqStores {m : Mods} {x : Nat} (h : x ∈ m.reqStores) : x ∈ m.out :: m.stores := by
  unfold Mods.reqStores at h
  split at h
  · rcases List.mem_append.1 h with h | h
    · exact List.mem_cons_of_mem _ h
    · cases List.mem_singleton.1 h; exact List.mem_cons_self
  · exact List.mem_cons_of_mem _ h

theorem stores_sub_reqStores {m : Mods} {x : Nat} (h : x ∈ m.stores) : x ∈ m.reqStores := by
  unfold Mods.reqStores; split
  · exact List.mem_append_left _ h
  · exact h

theorem out_mem_reqStores {m : Mods} (h : m.outIsStore = true) : m.out ∈ m.reqStores := by
  simp [Mods.reqStores, h]

theorem graphOk_reqStores (fsb : Nat) (m : Mods) (hg : m.graphOk fsb = true) :
    ∀ s ∈ m.reqStores, s = 0 ∨ fsb ≤ s := by
  intro s hs
  have h := (graphOk_iff fsb m).1 hg
  rcases List.mem_cons.1 (mem_reqStores hs) with h1 | h1
  · exact h1 ▸ h.1
  · exact h.2 s h1

theorem lowestInit_eq (fsb : Nat) (m : Mods) :
    ∃ l, lowestOf (m.out :: m.stores) = some l ∧ m.lowestInitBlock fsb = max fsb l := by
  unfold Mods.lowestInitBlock
  cases hl : lowestOf (m.out :: m.stores) with
  | none => cases lowestOf_eq_none.1 hl
  | some l => exact ⟨l, rfl, clip_eq_max fsb l⟩

theorem lowestStores_eq {fsb : Nat} {m : Mods} {ls : Nat} (h : m.lowestStoresInitBlock fsb = some ls) :
    ∃ x, lowestOf m.reqStores = some x ∧ ls = max fsb x := by
  unfold Mods.lowestStoresInitBlock at h
  cases hs : lowestOf m.reqStores with
  | none => rw [hs] at h; cases h
  | some x => rw [hs] at h; cases h; exact ⟨x, rfl, clip_eq_max fsb x⟩

theorem lowestStores_none_iff (fsb : Nat) (m : Mods) :
    m.lowestStoresInitBlock fsb = none ↔ m.reqStores = [] := by
  unfold Mods.lowestStoresInitBlock
  cases hs : lowestOf m.reqStores with
  | none => simp [lowestOf_eq_none.1 hs]
  | some x =>
    simp only [reduceCtorEq, false_iff]
    intro hc; rw [hc] at hs; cases hs

theorem lowestInit_le_out (fsb : Nat) (m : Mods) (hg : m.graphOk fsb = true) :
    fsb ≤ m.lowestInitBlock fsb ∧ m.lowestInitBlock fsb ≤ mapInit fsb m.out := by
  obtain ⟨l, hl, he⟩ := lowestInit_eq fsb m
  rw [he, mapInit_eq_max ((graphOk_iff fsb m).1 hg).1]
  exact ⟨Nat.le_max_left _ _, max_le_max_left fsb ((lowestOf_spec hl).2 _ List.mem_cons_self)⟩

theorem lowestInit_le_lowestStores (fsb : Nat) (m : Mods) (ls : Nat)
    (h : m.lowestStoresInitBlock fsb = some ls) : m.lowestInitBlock fsb ≤ ls := by
  obtain ⟨l, hl, he⟩ := lowestInit_eq fsb m
  obtain ⟨x, hx, rfl⟩ := lowestStores_eq h
  rw [he]
  exact max_le_max_left fsb ((lowestOf_spec hl).2 x (mem_reqStores (lowestOf_spec hx).1))

theorem lowestStores_spec (fsb : Nat) (m : Mods) (hg : m.graphOk fsb = true) (ls : Nat)
    (h : m.lowestStoresInitBlock fsb = some ls) :
    (∃ s ∈ m.reqStores, mapInit fsb s = ls) ∧ ∀ s ∈ m.reqStores, ls ≤ mapInit fsb s := by
  have hg' := graphOk_reqStores fsb m hg
  obtain ⟨x, hx, rfl⟩ := lowestStores_eq h
  obtain ⟨hmem, hmin⟩ := lowestOf_spec hx
  exact ⟨⟨x, hmem, mapInit_eq_max (hg' x hmem)⟩,
    fun s hs => mapInit_eq_max (hg' s hs) ▸ max_le_max_left fsb (hmin s hs)⟩

theorem lowestStores_ge_raw (fsb : Nat) (m : Mods) (ls x : Nat)
    (h : m.lowestStoresInitBlock fsb = some ls) (hx : ∀ s ∈ m.reqStores, x ≤ s) : x ≤ ls := by
  obtain ⟨y, hy, rfl⟩ := lowestStores_eq h
  exact Nat.le_trans (hx y (lowestOf_spec hy).1) (Nat.le_max_right _ _)

/-! ### `resolveStartBlockNum`, `BuildRequestDetails` -/

theorem bind_eq_ok {ε α β : Type} {x : Except ε α} {f : α → Except ε β} {b : β}
    (h : x >>= f = .ok b) : ∃ a, x = .ok a ∧ f a = .ok b := by
  cases x with
  | error e => cases h
  | ok a => exact ⟨a, rfl, h⟩

/-- The disjuncts, in source order: no cursor; cursor on a final block; no junction; junction on the cursor's own
block; forked. -/
theorem resolveStartBlockNum_ok {env : Env} {req : Request} {r : Resolved}
    (h : resolveStartBlockNum env req = .ok r) :
    ∃ sn, resolveNegativeStart env.head req.startNum = .ok sn ∧
      ((req.cursor = .none ∧ r = ⟨sn.toNat, none, none, .noCursor⟩) ∨
       ∃ c, req.cursor = .some c ∧ ¬(req.stop > 0 ∧ req.stop < c.block.num) ∧ ¬ c.lib.num > c.block.num ∧
        ((c.block.num = c.lib.num ∧ r = ⟨c.block.num + 1, none, none, .finalCursor⟩) ∨
         c.block.num ≠ c.lib.num ∧ ∃ oj head, env.resolver = .ok oj head ∧
          ((oj = none ∧ r = ⟨startOfCursor c, some c, none, .noJunction⟩) ∨
           ∃ j, oj = some j ∧
            ((j.num = c.block.num ∧ r = ⟨startOfCursor c, some c, none, .notForked⟩) ∨
             (j.num ≠ c.block.num ∧ r = ⟨j.num + 1, some ⟨.new, j, c.lib, head⟩,
                some ⟨j, ⟨.new, j, c.lib, head⟩⟩, .forked⟩))))) := by
  unfold resolveStartBlockNum at h
  obtain ⟨sn, hneg, h⟩ := bind_eq_ok h
  refine ⟨sn, hneg, ?_⟩
  cases hc : req.cursor with
  | none => rw [hc] at h; cases h; exact .inl ⟨rfl, rfl⟩
  | malformed => rw [hc] at h; cases h
  | some c =>
    rw [hc] at h
    simp only [] at h
    refine .inr ⟨c, rfl, ?_⟩
    by_cases hstop : req.stop > 0 ∧ req.stop < c.block.num
    · rw [if_pos hstop] at h; cases h
    rw [if_neg hstop] at h
    by_cases hfin : c.block.num = c.lib.num
    · rw [if_pos hfin] at h; cases h
      exact ⟨hstop, by omega, .inl ⟨hfin, rfl⟩⟩
    rw [if_neg hfin] at h
    by_cases hlib : c.lib.num > c.block.num
    · rw [if_pos hlib] at h; cases h
    rw [if_neg hlib] at h
    refine ⟨hstop, hlib, .inr ⟨hfin, ?_⟩⟩
    cases hres : env.resolver with
    | error => rw [hres] at h; cases h
    | ok oj head =>
      rw [hres] at h
      refine ⟨oj, head, rfl, ?_⟩
      cases oj with
      | none => cases h; exact .inl ⟨rfl, rfl⟩
      | some j =>
        simp only [] at h
        refine .inr ⟨j, rfl, ?_⟩
        by_cases hj : j.num ≠ c.block.num
        · rw [if_pos hj] at h; cases h; exact .inr ⟨hj, rfl⟩
        · rw [if_neg hj] at h; cases h; exact .inl ⟨Decidable.of_not_not hj, rfl⟩

theorem resolveStartBlockNum_of_resolver {env : Env} {req : Request} {c : Cursor} {sn : Int}
    (hneg : resolveNegativeStart env.head req.startNum = .ok sn) (hc : req.cursor = .some c)
    (hstop : ¬(req.stop > 0 ∧ req.stop < c.block.num)) (hnf : c.block.num ≠ c.lib.num)
    (hlib : ¬ c.lib.num > c.block.num) :
    resolveStartBlockNum env req = match env.resolver with
      | .error => .error .resolverFailed
      | .ok none _ => .ok ⟨startOfCursor c, some c, none, .noJunction⟩
      | .ok (some j) head =>
        if j.num ≠ c.block.num then
          .ok ⟨j.num + 1, some ⟨.new, j, c.lib, head⟩, some ⟨j, ⟨.new, j, c.lib, head⟩⟩, .forked⟩
        else .ok ⟨startOfCursor c, some c, none, .notForked⟩ := by
  simp only [resolveStartBlockNum, bind, Except.bind, hneg, hc, if_neg hstop, if_neg hnf, if_neg hlib]
  rfl

theorem computeLinearHandoff_ok {production : Bool} {start stop : Nat} {final sra : Option Nat} {seg h : Nat}
    (hh : computeLinearHandoff production start stop final sra seg = .ok h) :
    (computeLinearHandoffP production start stop final sra seg).1 ≠ .prodNoFinalOpenEnded ∧
    (computeLinearHandoffP production start stop final sra seg).2 = h := by
  unfold computeLinearHandoff at hh
  split at hh
  · cases hh
  · rename_i hne heq
    cases hh
    rw [heq]
    exact ⟨hne, rfl⟩

structure DetailsFields (env : Env) (m : Mods) (req : Request) (d : Details) (u : Option Undo) (r : Resolved) :
    Prop where
  resolved : resolveStartBlockNum env req = .ok r
  start : d.start = r.start
  undo : u = r.undo
  stop : d.stop = req.stop
  production : d.production = req.production
  rpath : d.rpath = r.path
  noError : (computeLinearHandoffP req.production r.start req.stop env.final
      (reprocStateRequired r.start m.reqStores) env.seg).1 ≠ .prodNoFinalOpenEnded
  hpath : d.hpath = (computeLinearHandoffP req.production r.start req.stop env.final
      (reprocStateRequired r.start m.reqStores) env.seg).1
  handoff : d.handoff = (computeLinearHandoffP req.production r.start req.stop env.final
      (reprocStateRequired r.start m.reqStores) env.seg).2
  gate : d.gate = (if d.start > d.handoff then d.start else d.handoff)
  cursor : d.cursor = (if d.start < d.handoff then none else r.cursor)

theorem buildRequestDetails_ok {env : Env} {m : Mods} {req : Request} {d : Details} {u : Option Undo}
    (h : buildRequestDetails env m req = .ok (d, u)) : ∃ r, DetailsFields env m req d u r := by
  unfold buildRequestDetails at h
  obtain ⟨r, hr, h⟩ := bind_eq_ok h
  obtain ⟨v, hc, h⟩ := bind_eq_ok h
  cases h
  obtain ⟨hne, hv⟩ := computeLinearHandoff_ok hc
  exact ⟨r, hr, rfl, rfl, rfl, rfl, rfl, hne, rfl, hv.symm, rfl, rfl⟩

/-! ### `computeLinearHandoffBlockNum` -/

theorem handoff_cases {production : Bool} {start stop : Nat} {final sra : Option Nat} {seg h : Nat}
    (hh : (computeLinearHandoffP production start stop final sra seg).2 = h) :
    (h % seg = 0 ∧ (production = true ∨ h ≤ start)) ∨
    (h = start ∧ ∀ x, sra = some x → start < x) ∨
    (production = false ∧ sra = some h ∧ h ≤ start ∧ start - start % seg < h) := by
  subst hh
  have hprev : start - start % seg ≤ start := Nat.sub_le _ _
  -- what `stateRequired` stands for
  have hsr : ∀ {b : Bool}, (match sra with | none => false | some s => decide (s ≤ start)) = b →
      ((!b) = true → ∀ x, sra = some x → start < x) ∧
      (¬(!b) = true → ∃ x, sra = some x ∧ x ≤ start) := by
    intro b hb
    subst hb
    cases sra with
    | none => exact ⟨fun _ => nofun, fun h => absurd rfl h⟩
    | some x => exact ⟨fun h y hy => by cases hy; simpa using h, fun h => ⟨x, rfl, by simpa using h⟩⟩
  -- one case per `return` of the Go function, in source order: 1–5 production mode, 6–10 development mode
  fun_cases computeLinearHandoffP production start stop final sra seg
  case case1 => exact .inl ⟨Nat.zero_mod _, .inl ‹_›⟩
  case case2 => exact .inl ⟨nextBoundary_mod _ _, .inl ‹_›⟩
  case case3 sr _ _ _ _ hc => exact .inr (.inl ⟨rfl, (hsr (b := sr) rfl).1 hc.1⟩)
  case case4 => exact .inl ⟨sub_mod_mod _ _, .inl ‹_›⟩
  case case5 => exact .inl ⟨nextBoundary_mod _ _, .inl ‹_›⟩
  case case6 sr _ hc => exact .inr (.inl ⟨rfl, (hsr (b := sr) rfl).1 hc⟩)
  case case7 sr hd hc _ _ hgt =>
    obtain ⟨x, rfl, hx⟩ := (hsr (b := sr) rfl).2 hc
    exact .inr (.inr ⟨eq_false_of_ne_true hd, rfl, hx, hgt⟩)
  case case8 => exact .inl ⟨sub_mod_mod _ _, .inr hprev⟩
  case case9 => exact .inl ⟨sub_mod_mod _ _, .inr hprev⟩
  case case10 lib hlt =>
    exact .inl ⟨sub_mod_mod _ _, .inr (by have := Nat.sub_le lib (lib % seg); omega)⟩

theorem handoff_of_details {env : Env} {m : Mods} {req : Request} {d : Details} {u : Option Undo}
    (hd : buildRequestDetails env m req = .ok (d, u)) :
    (d.handoff % env.seg = 0 ∧ (d.production = false → d.handoff ≤ d.start)) ∨
    (d.handoff = d.start ∧ ∀ s ∈ m.reqStores, d.start ≤ s) ∨
    (d.production = false ∧ d.handoff ∈ m.reqStores ∧ d.handoff < d.start ∧
      d.start - d.start % env.seg < d.handoff ∧ ∀ s ∈ m.reqStores, d.handoff ≤ s) := by
  obtain ⟨r, hr⟩ := buildRequestDetails_ok hd
  rw [hr.start, hr.production]
  rcases handoff_cases hr.handoff.symm with h | ⟨heq, hsra⟩ | ⟨hdev, hsra, _, hgt⟩
  · exact .inl ⟨h.1, fun hd => h.2.resolve_left (hd ▸ Bool.false_ne_true)⟩
  · refine .inr (.inl ⟨heq, ?_⟩)
    cases hx : reprocStateRequired r.start m.reqStores with
    | none => exact reproc_none hx
    | some x => exact absurd (reproc_some hx).2.1 (Nat.lt_asymm (hsra x hx))
  · obtain ⟨hmem, hlt, hmin⟩ := reproc_some hsra
    exact .inr (.inr ⟨hdev, hmem, hlt, hgt, hmin⟩)

theorem handoff_boundary_or_below {env : Env} {m : Mods} {req : Request} {d : Details} {u : Option Undo}
    (hd : buildRequestDetails env m req = .ok (d, u)) :
    d.handoff % env.seg = 0 ∨ (d.handoff ≤ d.start ∧ ∀ s ∈ m.reqStores, d.handoff ≤ s) := by
  rcases handoff_of_details hd with h | ⟨heq, h⟩ | ⟨_, _, hlt, _, h⟩
  · exact .inl h.1
  · exact .inr ⟨Nat.le_of_eq heq, heq ▸ h⟩
  · exact .inr ⟨Nat.le_of_lt hlt, h⟩

end SV.Plan
