import Model.Retry
/-! Lemmas behind C16, about `Model/Retry.lean`.  The retry loop is used through two equations: a clean fault
within both budgets is followed by the next attempt (`loop_cons_fault`), any other attempt is the last one
(`loop_cons_stop`); `sysLoop` obeys the same two and threads the cache through them. -/
namespace SV.Retry

/-- progress messages: `Update`, or a response without a type -/
def RecvEv.Progress (ev : RecvEv) : Prop := ev = .msg .update ∨ ev = .msg .other

theorem fire_none (p : CancelAt) (ctx : Option CtxErr) : fire none p ctx = ctx := by
  cases ctx <;> rfl

theorem fire_eq_none {cancel : Option (CancelAt × CtxErr)} {p : CancelAt} {ctx : Option CtxErr}
    (h : fire cancel p ctx = none) : ctx = none := by
  cases ctx with
  | none => rfl
  | some c => cases h

theorem recvLoop_cons_progress (cfg : Cfg) {cancel : Option (CancelAt × CtxErr)} {i : Nat}
    {ctx : Option CtxErr} {ev : RecvEv} (rest : List RecvEv) (hp : ev.Progress)
    (hf : fire cancel (.recv i) ctx = none) :
    recvLoop cfg cancel i ctx (ev :: rest) = recvLoop cfg cancel (i + 1) none rest := by
  rcases hp with rfl | rfl <;> simp only [recvLoop, hf]

theorem recvLoop_progress (cfg : Cfg) (ups : List RecvEv) (hups : ∀ ev ∈ ups, ev.Progress) :
    ∀ (i : Nat) (tail : List RecvEv),
      recvLoop cfg none i none (ups ++ tail) = recvLoop cfg none (i + ups.length) none tail := by
  induction ups with
  | nil => intro i tail; rfl
  | cons ev rest ih =>
    intro i tail
    rw [List.cons_append, recvLoop_cons_progress cfg _ (hups ev List.mem_cons_self) rfl,
      ih (fun x hx => hups x (List.mem_cons_of_mem _ hx)) (i + 1) tail,
      List.length_cons, Nat.add_right_comm, Nat.add_assoc]

theorem work_stream (cfg : Cfg) (h : Bool) (evs : List RecvEv) :
    work cfg ⟨.stream h evs, none⟩ = recvLoop cfg none 0 none evs := by
  cases h <;> simp only [work, fire_none]

theorem work_stream_error (cfg : Cfg) (h : Bool) (ups : List RecvEv) (e : RpcErr) (post : List RecvEv)
    (hups : ∀ ev ∈ ups, ev.Progress) :
    work cfg ⟨.stream h (ups ++ .err e :: post), none⟩
      = (if e.codeOrOk ∈ cfg.fatalCodes then .fatalStatus e else .retryable e, none) := by
  rw [work_stream, recvLoop_progress cfg ups hups 0 _]
  simp only [recvLoop, fire_none]
  split <;> rfl

theorem work_call_error (cfg : Cfg) (e : RpcErr) :
    work cfg ⟨.callErr e, none⟩ = (.retryable e, none) := rfl

/-- `transport` delivers a directly returned `connect` error as `Unknown`, whatever its code -/
theorem observe_direct (cfg : Cfg) (t2 : Table) (hdr : Bool) (code : Code) (o : Bool)
    (hu : Code.unknown ∉ cfg.fatalCodes) :
    observe cfg ⟨.stream hdr [.err (transport t2 (.direct code o))], none⟩
      = ⟨.retryable (transport t2 (.direct code o)), none, none⟩ := by
  have hw := work_stream_error cfg hdr [] (transport t2 (.direct code o)) [] (List.forall_mem_nil _)
  rw [if_neg (show (transport t2 (.direct code o)).codeOrOk ∉ cfg.fatalCodes from hu)] at hw
  show OStep.mk (work cfg _).1 (work cfg _).2 none = _
  rw [show work cfg ⟨.stream hdr [.err (transport t2 (.direct code o))], none⟩ = _ from hw]

/-- progress messages, then the server ends the stream with status OK -/
theorem work_clean_end (cfg : Cfg) (h : Bool) (ups : List RecvEv) (hups : ∀ ev ∈ ups, ev.Progress) :
    work cfg ⟨.stream h ups, none⟩ = (.ok false, none) := by
  have hl := recvLoop_progress cfg ups hups 0 []
  rw [List.append_nil] at hl
  rw [work_stream, hl]; rfl

theorem work_completed (cfg : Cfg) (h : Bool) (ups post : List RecvEv) (hups : ∀ ev ∈ ups, ev.Progress) :
    work cfg ⟨.stream h (ups ++ .msg .completed :: post), none⟩ = (.ok true, none) := by
  rw [work_stream, recvLoop_progress cfg ups hups 0 _]; rfl

/-- what `C16.attempt_ok_only_if_stream_ended_cleanly` rests on -/
theorem recvLoop_ok_inv (cfg : Cfg) (cancel : Option (CancelAt × CtxErr)) (evs : List RecvEv) :
    ∀ (i : Nat) (ctx : Option CtxErr) (m : Bool), recvLoop cfg cancel i ctx evs = (.ok m, none) →
      (m = false ∧ ∀ ev ∈ evs, ev.Progress) ∨
      (m = true ∧ ∃ ups post, evs = ups ++ .msg .completed :: post ∧ ∀ ev ∈ ups, ev.Progress) := by
  induction evs with
  | nil =>
    intro i ctx m h
    simp only [recvLoop] at h
    split at h <;> simp at h
    exact Or.inl ⟨h, List.forall_mem_nil _⟩
  | cons ev rest ih =>
    intro i ctx m h
    cases hf : fire cancel (.recv i) ctx with
    | some c => cases c <;> simp [recvLoop, hf] at h
    | none =>
      by_cases hp : ev.Progress
      · rw [recvLoop_cons_progress cfg rest hp hf] at h
        rcases ih _ _ _ h with ⟨hm, hall⟩ | ⟨hm, ups, post, he, hall⟩
        · exact Or.inl ⟨hm, List.forall_mem_cons.2 ⟨hp, hall⟩⟩
        · exact Or.inr ⟨hm, ev :: ups, post, by rw [he]; rfl, List.forall_mem_cons.2 ⟨hp, hall⟩⟩
      · simp only [recvLoop, hf] at h
        cases ev with
        | err e => simp only at h; split at h <;> simp at h
        | msg mm =>
          cases mm with
          | update => exact absurd (Or.inl rfl) hp
          | other => exact absurd (Or.inr rfl) hp
          | failed => simp at h
          | completed => simp at h; exact Or.inr ⟨h, [], rest, rfl, List.forall_mem_nil _⟩

/-- a clean fault: the attempt ended with a retryable error, the context is alive after it and during
the back-off sleep that follows -/
def OStep.CleanFault (s : OStep) : Prop :=
  (∃ e, s.out = .retryable e) ∧ s.ctxAfter = none ∧ s.sleepCancel = none

/-- an error that `Work` counts as an execution time-out -/
def RpcErr.counted (e : RpcErr) : Bool := !e.textOverloaded && e.textDeadline

def timeoutsOf : List OStep → Nat
  | [] => 0
  | s :: rest =>
    (match s.out with
     | .retryable e => if e.counted then 1 else 0
     | _ => 0) + timeoutsOf rest

theorem bumpTimeouts_eq (t : Nat) (e : RpcErr) :
    bumpTimeouts t e = t + (if e.counted then 1 else 0) := by
  unfold bumpTimeouts RpcErr.counted
  cases e.textOverloaded <;> cases e.textDeadline <;> simp

theorem timeoutsOf_append (a b : List OStep) : timeoutsOf (a ++ b) = timeoutsOf a + timeoutsOf b := by
  induction a with
  | nil => simp [timeoutsOf]
  | cons s rest ih => simp [timeoutsOf, ih]; omega

theorem bumpTimeouts_of_out (t : Nat) {s : OStep} {e : RpcErr} (he : s.out = .retryable e) :
    bumpTimeouts t e = t + timeoutsOf [s] := by
  simp only [timeoutsOf, he, bumpTimeouts_eq, Nat.add_zero]

/-- `r` retries and `t` counted time-outs before attempt `s`; `loop_cons_stop` is the converse -/
theorem loop_cons_fault (M T r t n : Nat) {s : OStep} (rest : List OStep)
    (hs : s.CleanFault) (hM : r < M) (hT : t + timeoutsOf [s] < T) :
    loop M T r t n (s :: rest) = loop M T (r + 1) (t + timeoutsOf [s]) (n + 1) rest := by
  obtain ⟨⟨e, he⟩, hc, hsl⟩ := hs
  simp only [loop, he, hc, hsl, bumpTimeouts_of_out t he, Nat.not_le.2 hT, Nat.not_le.2 hM, if_false]

theorem loop_cons_stop (M T r t n : Nat) {s : OStep} (rest : List OStep)
    (h : ¬ (s.CleanFault ∧ r < M ∧ t + timeoutsOf [s] < T)) :
    loop M T r t n (s :: rest) = ⟨(loop M T r t n [s]).result, n + 1⟩ := by
  cases hs : s.out with
  | retryable e =>
    simp only [loop, hs, bumpTimeouts_of_out t hs]
    split
    · rfl
    · split
      · rfl
      · cases hc : s.ctxAfter with
        | some c => rfl
        | none =>
          cases hsl : s.sleepCancel with
          | some c => rfl
          | none => exact absurd ⟨⟨⟨e, hs⟩, hc, hsl⟩, by omega, by omega⟩ h
  | ok m => cases hc : s.ctxAfter <;> simp only [loop, hs, hc]
  | _ => simp only [loop, hs]

/-- every branch of a retryable attempt ends in a failure or goes on (then `loop … [] = stuck`) -/
theorem loop_one_succeeded {M T r t n : Nat} {s : OStep} {m : Bool}
    (h : (loop M T r t n [s]).result = .succeeded m) : s.out = .ok m ∧ s.ctxAfter = none := by
  cases hs : s.out with
  | retryable e =>
    simp only [loop, hs] at h
    split at h
    · cases h
    · split at h
      · cases h
      · split at h
        · cases h
        · split at h <;> cases h
  | ok m' =>
    cases hc : s.ctxAfter with
    | some c => simp [loop, hs, hc] at h
    | none => simp [loop, hs, hc] at h; exact ⟨by rw [h], rfl⟩
  | _ => simp [loop, hs] at h

theorem loop_terminal (M T r t n : Nat) (s : OStep) (rest : List OStep)
    (h : ∀ e, s.out ≠ .retryable e) :
    loop M T r t n (s :: rest) = ⟨(loop M T 0 0 0 [s]).result, n + 1⟩ := by
  cases hs : s.out with
  | retryable e => exact absurd hs (h e)
  | ok m => cases hc : s.ctxAfter <;> simp [loop, hs, hc]
  | _ => simp [loop, hs]

theorem loop_skip_faults (M T : Nat) (faults : List OStep) :
    ∀ (r t n : Nat) (tail : List OStep),
      (∀ s ∈ faults, s.CleanFault) →
      r + faults.length ≤ M →
      t + timeoutsOf faults < T →
      loop M T r t n (faults ++ tail)
        = loop M T (r + faults.length) (t + timeoutsOf faults) (n + faults.length) tail := by
  induction faults with
  | nil => intro r t n tail _ _ _; rfl
  | cons s rest ih =>
    intro r t n tail hc hr ht
    rw [show timeoutsOf (s :: rest) = _ from timeoutsOf_append [s] rest] at ht ⊢
    rw [List.length_cons] at hr ⊢
    rw [List.cons_append, loop_cons_fault M T r t n _ (hc s List.mem_cons_self) (by omega) (by omega),
      ih _ _ _ _ (fun x hx => hc x (List.mem_cons_of_mem _ hx)) (by omega) (by omega),
      Nat.add_assoc r, Nat.add_assoc t, Nat.add_assoc n, Nat.add_comm 1]

theorem loop_skip_faults0 (M T : Nat) (faults tail : List OStep)
    (hc : ∀ s ∈ faults, s.CleanFault) (hM : faults.length ≤ M) (hT : timeoutsOf faults < T) :
    loop M T 0 0 0 (faults ++ tail) = loop M T faults.length (timeoutsOf faults) faults.length tail := by
  have := loop_skip_faults M T faults 0 0 0 tail hc (by omega) (by omega)
  simpa using this

theorem loop_faults_then_stop (M T : Nat) (faults : List OStep) {s : OStep} (rest : List OStep)
    (hc : ∀ x ∈ faults, x.CleanFault) (hM : faults.length ≤ M) (hT : timeoutsOf faults < T)
    (hs : ¬ s.CleanFault) :
    loop M T 0 0 0 (faults ++ s :: rest)
      = ⟨(loop M T faults.length (timeoutsOf faults) faults.length [s]).result, faults.length + 1⟩ := by
  rw [loop_skip_faults0 M T faults _ hc hM hT, loop_cons_stop _ _ _ _ _ rest (fun h => hs h.1)]

theorem loop_attempts_le (M T : Nat) (steps : List OStep) :
    ∀ (r t n : Nat), (loop M T r t n steps).attempts ≤ n + (M - r) + 1 ∧
      (loop M T r t n steps).attempts ≤ n + steps.length := by
  induction steps with
  | nil => intro r t n; show n ≤ _ ∧ n ≤ _; omega
  | cons s rest ih =>
    intro r t n
    rw [List.length_cons]
    by_cases h : s.CleanFault ∧ r < M ∧ t + timeoutsOf [s] < T
    · rw [loop_cons_fault M T r t n rest h.1 h.2.1 h.2.2]
      have := ih (r + 1) (t + timeoutsOf [s]) (n + 1)
      omega
    · rw [loop_cons_stop M T r t n rest h]
      show n + 1 ≤ _ ∧ n + 1 ≤ _
      omega

theorem loop_succeeded_inv (M T : Nat) (steps : List OStep) :
    ∀ (r t n : Nat) (m : Bool), (loop M T r t n steps).result = .succeeded m →
      ∃ pre s post, steps = pre ++ s :: post ∧ (∀ x ∈ pre, x.CleanFault) ∧
        s.out = .ok m ∧ s.ctxAfter = none ∧ (loop M T r t n steps).attempts = n + pre.length + 1 := by
  induction steps with
  | nil => intro r t n m h; cases h
  | cons s rest ih =>
    intro r t n m h
    by_cases hs : s.CleanFault ∧ r < M ∧ t + timeoutsOf [s] < T
    · rw [loop_cons_fault M T r t n rest hs.1 hs.2.1 hs.2.2] at h ⊢
      obtain ⟨pre, s', post, he, hpre, hok, hctx, ha⟩ := ih _ _ _ _ h
      refine ⟨s :: pre, s', post, by rw [he]; rfl, List.forall_mem_cons.2 ⟨hs.1, hpre⟩, hok, hctx, ?_⟩
      rw [ha, List.length_cons]; omega
    · rw [loop_cons_stop M T r t n rest hs] at h ⊢
      obtain ⟨hok, hctx⟩ := loop_one_succeeded h
      exact ⟨[], s, rest, rfl, List.forall_mem_nil _, hok, hctx, rfl⟩

/-- every name is written with one value -/
def Functional {N V : Type} (l : Files N V) : Prop :=
  ∀ n v v', (n, v) ∈ l → (n, v') ∈ l → v = v'

theorem lookup_mem {N V : Type} [DecidableEq N] (l : Files N V) (n : N) (v : V)
    (h : l.lookup n = some v) : (n, v) ∈ l := by
  obtain ⟨l₁, l₂, rfl, _⟩ := List.lookup_eq_some_iff.1 h
  exact List.mem_append_right _ List.mem_cons_self

theorem lookup_none_not_mem {N V : Type} [DecidableEq N] (l : Files N V) (n : N)
    (h : l.lookup n = none) : ∀ v, (n, v) ∉ l :=
  fun v hv => by simpa using List.lookup_eq_none_iff.1 h _ hv

theorem mem_lookup_functional {N V : Type} [DecidableEq N] (l : Files N V) (hf : Functional l) (n : N) (v : V)
    (h : (n, v) ∈ l) : l.lookup n = some v := by
  cases hl : l.lookup n with
  | none => exact absurd h (lookup_none_not_mem l n hl v)
  | some v' => rw [hf n v v' h (lookup_mem l n v' hl)]

/-- a cache obtained from `c0` by writing files that all belong to `J` (functional) agrees, name by name,
with `c0` or with `J` -/
def Between {N V : Type} [DecidableEq N] (c0 : Cache N V) (J : Files N V) (c : Cache N V) : Prop :=
  ∀ n, c n = c0 n ∨ (∃ v, J.lookup n = some v ∧ c n = some v)

theorem between_write {N V : Type} [DecidableEq N] (c0 c : Cache N V) (J S : Files N V)
    (hf : Functional J) (hb : Between c0 J c) (hS : ∀ x ∈ S, x ∈ J) : Between c0 J (writeAll c S) := by
  intro n
  unfold writeAll
  cases hl : S.lookup n with
  | none => exact hb n
  | some v =>
    right
    exact ⟨v, mem_lookup_functional J hf n v (hS _ (lookup_mem S n v hl)), rfl⟩

theorem between_write_all {N V : Type} [DecidableEq N] (c0 c : Cache N V) (J W : Files N V)
    (hf : Functional J) (hb : Between c0 J c) (hsub : ∀ x ∈ W, x ∈ J) (hsup : ∀ x ∈ J, x ∈ W) :
    ∀ n, writeAll c W n = writeAll c0 J n := by
  intro n
  unfold writeAll
  cases hl : W.lookup n with
  | some v => rw [mem_lookup_functional J hf n v (hsub _ (lookup_mem W n v hl))]
  | none =>
    have hJ : J.lookup n = none := by
      cases hj : J.lookup n with
      | none => rfl
      | some v => exact absurd (hsup _ (lookup_mem J n v hj)) (lookup_none_not_mem W n hl v)
    rw [hJ]
    rcases hb n with h | ⟨v, hv, _⟩
    · exact h
    · rw [hJ] at hv; cases hv

theorem sysLoop_cons_fault {N V : Type} [DecidableEq N] (M T r t n : Nat) (c : Cache N V)
    {s : SysStep N V} (rest : List (SysStep N V))
    (hs : s.o.CleanFault) (hM : r < M) (hT : t + timeoutsOf [s.o] < T) :
    sysLoop M T r t n c (s :: rest)
      = sysLoop M T (r + 1) (t + timeoutsOf [s.o]) (n + 1) (writeAll c (s.wrote c)) rest := by
  obtain ⟨⟨e, he⟩, hc, hsl⟩ := hs
  simp only [sysLoop, he, hc, hsl, bumpTimeouts_of_out t he, Nat.not_le.2 hT, Nat.not_le.2 hM, if_false]

theorem sysLoop_cons_stop {N V : Type} [DecidableEq N] (M T r t n : Nat) (c : Cache N V)
    {s : SysStep N V} (rest : List (SysStep N V))
    (h : ¬ (s.o.CleanFault ∧ r < M ∧ t + timeoutsOf [s.o] < T)) :
    sysLoop M T r t n c (s :: rest) = (loop M T r t n [s.o], writeAll c (s.wrote c)) := by
  cases hs : s.o.out with
  | retryable e =>
    simp only [sysLoop, loop, hs, bumpTimeouts_of_out t hs]
    split
    · rfl
    · split
      · rfl
      · cases hc : s.o.ctxAfter with
        | some k => rfl
        | none =>
          cases hsl : s.o.sleepCancel with
          | some k => rfl
          | none => exact absurd ⟨⟨⟨e, hs⟩, hc, hsl⟩, by omega, by omega⟩ h
  | _ => simp only [sysLoop, hs]

theorem sysLoop_run {N V : Type} [DecidableEq N] (M T : Nat) (steps : List (SysStep N V)) :
    ∀ (r t n : Nat) (c : Cache N V),
      (sysLoop M T r t n c steps).1 = loop M T r t n (steps.map (·.o)) := by
  induction steps with
  | nil => intro r t n c; rfl
  | cons s rest ih =>
    intro r t n c
    rw [List.map_cons]
    by_cases h : s.o.CleanFault ∧ r < M ∧ t + timeoutsOf [s.o] < T
    · rw [sysLoop_cons_fault M T r t n c rest h.1 h.2.1 h.2.2, loop_cons_fault M T r t n _ h.1 h.2.1 h.2.2]
      exact ih _ _ _ _
    · rw [sysLoop_cons_stop M T r t n c rest h, loop_cons_stop M T r t n (rest.map (·.o)) h]
      -- left: `loop … [s.o]`; the same equation with nothing after `s.o` brings it to the form on the right
      exact loop_cons_stop M T r t n [] h

/-- `C16.faults_do_not_change_files` from any state of the loop (hypotheses explained there) -/
theorem sysLoop_between {N V : Type} [DecidableEq N] (M T : Nat)
    (job : Cache N V → Files N V) (c0 : Cache N V)
    (hfun : Functional (job c0))
    (hdet : ∀ c, Between c0 (job c0) c → job c = job c0) :
    ∀ (steps : List (SysStep N V)) (r t n : Nat) (c : Cache N V),
      (∀ s ∈ steps, ∀ c, ∀ x ∈ s.wrote c, x ∈ job c) →
      (∀ s ∈ steps, ∀ c m, s.o.out = .ok m → ∀ x ∈ job c, x ∈ s.wrote c) →
      Between c0 (job c0) c →
      Between c0 (job c0) (sysLoop M T r t n c steps).2 ∧
      (∀ m, (sysLoop M T r t n c steps).1.result = .succeeded m →
        ∀ k, (sysLoop M T r t n c steps).2 k = writeAll c0 (job c0) k) := by
  intro steps
  induction steps with
  | nil => intro r t n c _ _ hb; exact ⟨hb, fun _ h => nomatch h⟩
  | cons s rest ih =>
    intro r t n c hsub hall hb
    have hj := hdet c hb
    have hw : ∀ x ∈ s.wrote c, x ∈ job c0 := fun x hx => hj ▸ hsub s List.mem_cons_self c x hx
    have hb' := between_write c0 c (job c0) (s.wrote c) hfun hb hw
    by_cases hs : s.o.CleanFault ∧ r < M ∧ t + timeoutsOf [s.o] < T
    · rw [sysLoop_cons_fault M T r t n c rest hs.1 hs.2.1 hs.2.2]
      exact ih _ _ _ _ (fun x hx => hsub x (List.mem_cons_of_mem _ hx))
        (fun x hx => hall x (List.mem_cons_of_mem _ hx)) hb'
    · rw [sysLoop_cons_stop M T r t n c rest hs]
      refine ⟨hb', fun m hm k => ?_⟩
      have hok := (loop_one_succeeded hm).1
      exact between_write_all c0 c (job c0) (s.wrote c) hfun hb hw
        (fun x hx => hall s List.mem_cons_self c m hok x (hj ▸ hx)) k

end SV.Retry
