import Model.Sched
import Lemmas.Stages
/-!
The invariants of the scheduler model (`Model/Sched.lean`) and their preservation by every step.  A step is taken apart
once: `exec` by `exec_fst`/`exec_snd`, `update` by its graph `Upd` (`update_inv`), `step` by `StepKind` (`step_kind`); the
preservation proofs go through these, and `MsgStep` collects what is known about a step that delivers a message.  The answers
to a job result and to a finished merge have one shape (`TryMergeAnswer`), which each invariant consumes once.  The
reachable states satisfy `Good2` (the commands in flight agree with the matrix and the pool: `BagOK`; merges are in order:
`MergeOK`), `LiveF` (final flags, shutdown) and `LiveW` (walker).  `Witness` holds the schedules of the examples of C05.
-/
namespace SV.Sch
open SV SV.Stg SV.Stg.Stages

/-! ### `Cmd.atoms`, `State.inFlight` -/

theorem atomsList_append (a b : List Cmd) : atomsList (a ++ b) = atomsList a ++ atomsList b := by
  induction a with
  | nil => simp [atomsList]
  | cons c cs ih => simp [atomsList, ih]

theorem atomsList_cons (c : Cmd) (l : List Cmd) : atomsList (c :: l) = c.atoms ++ atomsList l := by
  simp [atomsList]

theorem atomsList_eraseIdx_perm : ∀ (l : List Cmd) (i : Nat) (c : Cmd), l[i]? = some c →
    (atomsList l).Perm (c.atoms ++ atomsList (l.eraseIdx i)) := by
  intro l
  induction l with
  | nil => intro i c h; simp at h
  | cons x xs ih =>
    intro i c h
    cases i with
    | zero =>
      simp only [List.getElem?_cons_zero, Option.some.injEq] at h
      subst h
      simp [atomsList]
    | succ n =>
      simp only [List.getElem?_cons_succ] at h
      have := ih n c h
      simp only [List.eraseIdx_cons_succ, atomsList]
      refine ((List.Perm.append_left x.atoms this).trans ?_)
      rw [← List.append_assoc, ← List.append_assoc]
      exact List.Perm.append_right _ List.perm_append_comm

def optAtoms (o : Option Cmd) : List Cmd := atomsList o.toList

theorem optAtoms_some (c : Cmd) : optAtoms (some c) = c.atoms := by
  simp [optAtoms, atomsList]

theorem optAtoms_mkBatch (l : List (Option Cmd)) : optAtoms (mkBatch l) = atomsList (l.filterMap id) := by
  unfold mkBatch
  split
  · rename_i h; rw [h]; rfl
  · rename_i l' h
    rw [optAtoms_some]
    simp [Cmd.atoms]

theorem atomsList_filterMap (l : List (Option Cmd)) : atomsList (l.filterMap id) = l.flatMap optAtoms := by
  induction l with
  | nil => rfl
  | cons o os ih =>
    cases o with
    | none => exact ih
    | some c => rw [List.flatMap_cons, optAtoms_some, ← ih]; exact atomsList_cons c _

theorem optAtoms_batch (l : List (Option Cmd)) : optAtoms (mkBatch l) = l.flatMap optAtoms :=
  (optAtoms_mkBatch l).trans (atomsList_filterMap l)

theorem optAtoms_eq_toList {o : Option Cmd} {a : Cmd} (ha : a.atoms = [a]) (h : ∀ x ∈ o.toList, x = a) :
    optAtoms o = o.toList := by
  cases o with
  | none => rfl
  | some d => cases h d (List.mem_singleton.2 rfl); exact (optAtoms_some _).trans ha

structure BagOK (s : Stages) (p : Pool) (A : List Cmd) : Prop where
  jobs   : ∀ u sb w, Cmd.job u sb w ∈ A → s.getState u.seg u.stage = .scheduled ∧ p.workers[w]? = some .working
  jobU   : (A.filterMap Cmd.jobUnit).Nodup
  jobW   : (A.filterMap Cmd.jobWorker).Nodup
  merges : ∀ u, Cmd.merge u ∈ A → s.getState u.seg u.stage = .merging
  mergeU : (A.filterMap Cmd.mergeUnit).Nodup

theorem BagOK.perm {s : Stages} {p : Pool} {A B : List Cmd} (h : BagOK s p A) (hp : A.Perm B) : BagOK s p B :=
  ⟨fun u sb w hm => h.jobs u sb w (hp.mem_iff.2 hm),
   (hp.filterMap _).nodup_iff.1 h.jobU, (hp.filterMap _).nodup_iff.1 h.jobW,
   fun u hm => h.merges u (hp.mem_iff.2 hm), (hp.filterMap _).nodup_iff.1 h.mergeU⟩

theorem BagOK.sublist {s : Stages} {p : Pool} {A B : List Cmd} (h : BagOK s p A) (hs : B.Sublist A) : BagOK s p B :=
  ⟨fun u sb w hm => h.jobs u sb w (hs.subset hm),
   h.jobU.sublist (hs.filterMap _), h.jobW.sublist (hs.filterMap _),
   fun u hm => h.merges u (hs.subset hm), h.mergeU.sublist (hs.filterMap _)⟩

def Cmd.plain (c : Cmd) : Prop := c.jobUnit = none ∧ c.jobWorker = none ∧ c.mergeUnit = none

/-- two lists of commands that are in order, for different units and workers -/
theorem BagOK.append {s : Stages} {p : Pool} {A B : List Cmd} (hA : BagOK s p A) (hB : BagOK s p B)
    (hU : ∀ u ∈ B.filterMap Cmd.jobUnit, u ∉ A.filterMap Cmd.jobUnit)
    (hW : ∀ w ∈ B.filterMap Cmd.jobWorker, w ∉ A.filterMap Cmd.jobWorker)
    (hM : ∀ u ∈ B.filterMap Cmd.mergeUnit, u ∉ A.filterMap Cmd.mergeUnit) : BagOK s p (A ++ B) := by
  have nd : ∀ {β : Type} (f : Cmd → Option β), (A.filterMap f).Nodup → (B.filterMap f).Nodup →
      (∀ b ∈ B.filterMap f, b ∉ A.filterMap f) → ((A ++ B).filterMap f).Nodup := fun f h1 h2 h => by
    rw [List.filterMap_append]
    exact List.nodup_append.2 ⟨h1, h2, fun a ha b hb hab => h b hb (hab ▸ ha)⟩
  exact ⟨fun u sb w hm => (List.mem_append.1 hm).elim (hA.jobs u sb w) (hB.jobs u sb w), nd _ hA.jobU hB.jobU hU,
    nd _ hA.jobW hB.jobW hW, fun u hm => (List.mem_append.1 hm).elim (hA.merges u) (hB.merges u), nd _ hA.mergeU hB.mergeU hM⟩

theorem BagOK.append_plain {s : Stages} {p : Pool} {A B : List Cmd} (h : BagOK s p A) (hB : ∀ c ∈ B, c.plain) :
    BagOK s p (A ++ B) := by
  have e1 : B.filterMap Cmd.jobUnit = [] := List.filterMap_eq_nil_iff.2 fun c hc => (hB c hc).1
  have e2 : B.filterMap Cmd.jobWorker = [] := List.filterMap_eq_nil_iff.2 fun c hc => (hB c hc).2.1
  have e3 : B.filterMap Cmd.mergeUnit = [] := List.filterMap_eq_nil_iff.2 fun c hc => (hB c hc).2.2
  exact h.append ⟨fun u sb w hm => (nomatch (hB _ hm).1), e1 ▸ List.nodup_nil, e2 ▸ List.nodup_nil,
    fun u hm => (nomatch (hB _ hm).2.2), e3 ▸ List.nodup_nil⟩ (e1 ▸ nofun) (e2 ▸ nofun) (e3 ▸ nofun)

theorem ne_pending_of_live {s : Stages} {seg stg : Nat}
    (h : s.getState seg stg = .scheduled ∨ s.getState seg stg = .merging) : s.getState seg stg ≠ .pending := by
  rcases h with h | h <;> rw [h] <;> nofun

theorem BagOK.change' {s s' : Stages} {p p' : Pool} {A : List Cmd} (h : BagOK s p A)
    (hs : ∀ u, (∃ sb w, Cmd.job u sb w ∈ A) ∨ Cmd.merge u ∈ A → s'.getState u.seg u.stage = s.getState u.seg u.stage)
    (hp : ∀ u sb w, Cmd.job u sb w ∈ A → p'.workers[w]? = some WState.working) : BagOK s' p' A :=
  ⟨fun u sb w hm => ⟨by rw [hs u (Or.inl ⟨sb, w, hm⟩)]; exact (h.jobs u sb w hm).1, hp u sb w hm⟩, h.jobU, h.jobW,
   fun u hm => by rw [hs u (Or.inr hm)]; exact h.merges u hm, h.mergeU⟩

theorem BagOK.live {s : Stages} {p : Pool} {A : List Cmd} (h : BagOK s p A) {u : WorkUnit}
    (hu : (∃ sb w, Cmd.job u sb w ∈ A) ∨ Cmd.merge u ∈ A) :
    s.getState u.seg u.stage = .scheduled ∨ s.getState u.seg u.stage = .merging :=
  hu.elim (fun ⟨sb, w, hm⟩ => Or.inl (h.jobs u sb w hm).1) fun hm => Or.inr (h.merges u hm)

theorem BagOK.change {s s' : Stages} {p p' : Pool} {A : List Cmd} (h : BagOK s p A)
    (hs : ∀ seg stg, (s.getState seg stg = .scheduled ∨ s.getState seg stg = .merging) →
      s'.getState seg stg = s.getState seg stg)
    (hp : ∀ w : Nat, p.workers[w]? = some WState.working → p'.workers[w]? = some WState.working) : BagOK s' p' A :=
  h.change' (fun u hu => hs _ _ (h.live hu)) fun u sb w hm => hp w (h.jobs u sb w hm).2

theorem WorkUnit.ne_cell {u u' : WorkUnit} (h : u' ≠ u) : ¬(u'.seg = u.seg ∧ u'.stage = u.stage) := by
  intro hc
  apply h
  cases u'; cases u
  simp only at hc
  rw [hc.1, hc.2]

/-- a unit whose job or merge command is not in `A` is not the unit of a command of `A` -/
theorem BagOK.ne_unit {s : Stages} {p : Pool} {A : List Cmd} (h : BagOK s p A) {u u' : WorkUnit}
    (hu' : (∃ sb w, Cmd.job u' sb w ∈ A) ∨ Cmd.merge u' ∈ A)
    (hj : s.getState u.seg u.stage = .scheduled → u ∉ A.filterMap Cmd.jobUnit)
    (hm : s.getState u.seg u.stage = .merging → u ∉ A.filterMap Cmd.mergeUnit) : u' ≠ u := by
  rintro rfl
  rcases hu' with ⟨sb, w, hc⟩ | hc
  · exact hj (h.jobs _ sb w hc).1 (List.mem_filterMap.2 ⟨_, hc, rfl⟩)
  · exact hm (h.merges _ hc) (List.mem_filterMap.2 ⟨_, hc, rfl⟩)

/-- an operation on the matrix that changes, apart from Pending cells, only cells `T` that no command in flight is for -/
theorem BagOK.step {T : Nat → Nat → Prop} {s s' : Stages} {p p' : Pool} {A : List Cmd} (h : BagOK s p A) (t : Step T s s')
    (hT : ∀ u, (∃ sb w, Cmd.job u sb w ∈ A) ∨ Cmd.merge u ∈ A → ¬T u.seg u.stage)
    (hp : ∀ u sb w, Cmd.job u sb w ∈ A → p'.workers[w]? = some WState.working) : BagOK s' p' A :=
  h.change' (fun u hu => t.frame u.seg u.stage (hT u hu) (ne_pending_of_live (h.live hu))) hp

theorem BagOK.add_job {s : Stages} {p : Pool} {A : List Cmd} (h : BagOK s p A) {u : WorkUnit} {w : Nat} (sb : Nat)
    (hs : s.getState u.seg u.stage = .scheduled) (hw : p.workers[w]? = some WState.working)
    (hu : u ∉ A.filterMap Cmd.jobUnit) (hw' : w ∉ A.filterMap Cmd.jobWorker) : BagOK s p (A ++ [Cmd.job u sb w]) :=
  h.append ⟨fun u' sb' w' hm => by cases List.mem_singleton.1 hm; exact ⟨hs, hw⟩, List.nodup_cons.2 ⟨nofun, List.nodup_nil⟩,
      List.nodup_cons.2 ⟨nofun, List.nodup_nil⟩, nofun, List.nodup_nil⟩
    (fun u' hm => List.mem_singleton.1 hm ▸ hu) (fun w' hm => List.mem_singleton.1 hm ▸ hw') nofun

/-! ### `Pool` -/

namespace Pool

theorem workerAvailable_keeps {p p' : Pool} {e a r : Bool} (h : p.workerAvailable e = (p', a, r)) {w : Nat}
    (hw : p.workers[w]? = some WState.working) : p'.workers[w]? = some WState.working := by
  have : (p.workerAvailable e).1.workers[w]? = some WState.working := by
    unfold workerAvailable
    simp only
    split
    · split
      · simp only [List.getElem?_map, hw, Option.map_some]; simp
      · simp only [List.getElem?_map, hw, Option.map_some]; simp
    · split <;> exact hw
  rwa [h] at this

theorem firstFree_spec : ∀ (l : List WState) (i j : Nat), firstFree l i = some j → i ≤ j ∧ l[j - i]? = some WState.free := by
  intro l
  induction l with
  | nil => intro i j h; simp [firstFree] at h
  | cons x xs ih =>
    intro i j h
    simp only [firstFree] at h
    split at h
    · injection h with h; subst h; rename_i hx; simp [hx]
    · have := ih (i + 1) j h
      refine ⟨by omega, ?_⟩
      have e : j - i = (j - (i + 1)) + 1 := by omega
      rw [e, List.getElem?_cons_succ]; exact this.2

theorem firstFree_some_of_mem : ∀ (l : List WState) (i : Nat), WState.free ∈ l → ∃ j, firstFree l i = some j := by
  intro l
  induction l with
  | nil => intro i h; simp at h
  | cons x xs ih =>
    intro i h
    simp only [firstFree]
    split
    · exact ⟨_, rfl⟩
    · rename_i hx
      rcases List.mem_cons.1 h with h | h
      · exact absurd h.symm hx
      · exact ih (i + 1) h

/-- the worker borrowed was free and is working now; the others that work go on -/
theorem borrow_spec {p p' : Pool} {w : Nat} (h : p.borrow = .ok (p', w)) :
    p.workers[w]? = some WState.free ∧ p'.workers[w]? = some WState.working ∧
    ∀ w' : Nat, p.workers[w']? = some WState.working → p'.workers[w']? = some WState.working := by
  unfold borrow at h
  split at h
  · cases h
  · rename_i i hi
    injection h with h; injection h with h1 h2; subst h1; subst h2
    have hfree : p.workers[i]? = some WState.free := by simpa using (firstFree_spec _ _ _ hi).2
    have hlt : i < p.workers.length := by
      apply Nat.lt_of_not_le; intro hc; rw [List.getElem?_eq_none hc] at hfree; cases hfree
    refine ⟨hfree, List.getElem?_set_self hlt, fun w' hw' => ?_⟩
    show (p.workers.set i WState.working)[w']? = _
    rw [List.getElem?_set_ne fun hc => by rw [hc, hw'] at hfree; cases hfree]
    exact hw'

theorem borrow_ok (p : Pool) (h : p.workers.contains WState.free = true) : ∃ r, p.borrow = .ok r := by
  unfold borrow
  obtain ⟨j, hj⟩ := firstFree_some_of_mem p.workers 0 (by simpa using h)
  rw [hj]; exact ⟨_, rfl⟩

theorem giveBack_ok (p : Pool) (w : Nat) (h : p.workers[w]? = some WState.working) :
    ∃ p', p.giveBack w = .ok p' ∧ p'.workers = p.workers.set w WState.free := by
  unfold giveBack
  have hlt : w < p.workers.length := by
    apply Nat.lt_of_not_le; intro hc; rw [List.getElem?_eq_none hc] at h; cases h
  simp only [hlt, if_true]
  simp [h]

theorem giveBack_keeps {p p' : Pool} {w w' : Nat} (hw : p.workers[w]? = some WState.working) (h : p.giveBack w = .ok p')
    (hne : w ≠ w') (hw' : p.workers[w']? = some WState.working) : p'.workers[w']? = some WState.working := by
  obtain ⟨_, h', e⟩ := giveBack_ok p w hw
  rw [h] at h'; cases h'
  rw [e, List.getElem?_set_ne hne]; exact hw'

theorem workerAvailable_avail (p : Pool) (e : Bool) (h : (p.workerAvailable e).2.1 = true) :
    (p.workerAvailable e).1.workers.contains WState.free = true := by
  unfold workerAvailable at h ⊢
  simp only at h ⊢
  generalize (if p.rampup = true ∧ e = true then
      ({ workers := p.workers.map fun w => if w = WState.initialWait then WState.free else w, rampup := false } : Pool)
    else p) = p1 at h ⊢
  split at h
  · rename_i hc; rw [if_pos hc]; exact hc
  · simp at h

end Pool

theorem mem_jobUnit {A : List Cmd} {u : WorkUnit} (h : u ∈ A.filterMap Cmd.jobUnit) : ∃ sb w, Cmd.job u sb w ∈ A := by
  obtain ⟨c, hc, hcu⟩ := List.mem_filterMap.1 h
  cases c <;> simp [Cmd.jobUnit] at hcu
  subst hcu; exact ⟨_, _, hc⟩

theorem mem_jobWorker {A : List Cmd} {w : Nat} (h : w ∈ A.filterMap Cmd.jobWorker) : ∃ u sb, Cmd.job u sb w ∈ A := by
  obtain ⟨c, hc, hcu⟩ := List.mem_filterMap.1 h
  cases c <;> simp [Cmd.jobWorker] at hcu
  subst hcu; exact ⟨_, _, hc⟩

theorem mem_mergeUnit {A : List Cmd} {u : WorkUnit} (h : u ∈ A.filterMap Cmd.mergeUnit) : Cmd.merge u ∈ A := by
  obtain ⟨c, hc, hcu⟩ := List.mem_filterMap.1 h
  cases c <;> simp [Cmd.mergeUnit] at hcu
  subst hcu; exact hc

/-- Completed and NoOp cells are kept -/
def StableCN (s s' : Stages) : Prop :=
  ∀ seg stg, (s.getState seg stg = .completed ∨ s.getState seg stg = .noOp) → s'.getState seg stg = s.getState seg stg

theorem StableCN.refl (s : Stages) : StableCN s s := fun _ _ _ => rfl
theorem StableCN.trans {a b c : Stages} (h1 : StableCN a b) (h2 : StableCN b c) : StableCN a c := by
  intro seg stg hst
  have e1 := h1 seg stg hst
  rw [h2 seg stg (by rw [e1]; exact hst), e1]

theorem StableCN.of_step {T : Nat → Nat → Prop} {s s' : Stages} (h : Step T s s')
    (hT : ∀ seg stg, T seg stg → s.getState seg stg ≠ .completed ∧ s.getState seg stg ≠ .noOp) : StableCN s s' := by
  intro seg stg hst
  apply h.frame seg stg
  · intro hc
    have := hT seg stg hc
    rcases hst with e | e
    · exact this.1 e
    · exact this.2 e
  · rcases hst with e | e <;> rw [e] <;> simp

theorem previousUnitComplete_stable {s s' : Stages} (h : StableCN s s') (u : WorkUnit) (hp : s.previousUnitComplete u = true) :
    s'.previousUnitComplete u = true := by
  unfold Stages.previousUnitComplete Stages.getStatePrev at hp ⊢
  simp only at hp ⊢
  split
  · simp
  · rename_i hne
    simp only [hne, if_false] at hp
    have : s.getState (u.seg - 1) u.stage = .completed ∨ s.getState (u.seg - 1) u.stage = .noOp := by
      simpa [Bool.or_eq_true, beq_iff_eq] using hp
    rw [h _ _ this]
    simpa [Bool.or_eq_true, beq_iff_eq] using this

theorem allDoneFrom_mono {s s' : Stages} (hcn : StableCN s s') (stage : Nat) :
    ∀ (fuel seg : Nat), s.allDoneFrom stage fuel seg = true → s'.allDoneFrom stage fuel seg = true := by
  intro fuel
  induction fuel with
  | zero => intro seg _; rfl
  | succ n ih =>
    intro seg h
    simp only [Stages.allDoneFrom, Bool.and_eq_true, Bool.or_eq_true, beq_iff_eq] at h ⊢
    refine ⟨?_, ih _ h.2⟩
    rw [hcn seg stage h.1]; exact h.1

theorem allStoresCompletedStages_mono {s s' : Stages} (hcn : StableCN s s') (ss : Segmenter) :
    ∀ (l l' : List Stage) (i : Nat), l'.map (·.kind) = l.map (·.kind) →
      s.allStoresCompletedStages ss l i = true → s'.allStoresCompletedStages ss l' i = true := by
  intro l
  induction l with
  | nil =>
    intro l' i hk _
    cases l' with
    | nil => rfl
    | cons a as => simp at hk
  | cons x xs ih =>
    intro l' i hk h
    cases l' with
    | nil => simp at hk
    | cons a as =>
      simp only [List.map_cons, List.cons.injEq] at hk
      simp only [Stages.allStoresCompletedStages, Bool.and_eq_true] at h ⊢
      refine ⟨?_, ih as (i + 1) hk.2 h.2⟩
      rw [hk.1]
      split
      · rename_i hkx
        have := h.1
        rw [if_pos hkx] at this
        exact allDoneFrom_mono hcn i _ _ this
      · rfl

theorem allStoresCompleted_mono {s s' : Stages} (hcn : StableCN s s')
    (hk : s'.stages.map (·.kind) = s.stages.map (·.kind)) (hss : s'.storeSeg = s.storeSeg)
    (h : s.allStoresCompleted = true) : s'.allStoresCompleted = true := by
  unfold Stages.allStoresCompleted at h ⊢
  rw [hss]
  split
  · rfl
  · rename_i ss hs
    rw [hs] at h
    simp only at h
    split
    · rfl
    · rename_i hne
      rw [if_neg hne] at h
      exact allStoresCompletedStages_mono hcn ss _ _ 0 hk h

theorem setStage_kinds (s : Stages) (i : Nat) (st : Stage) (hk : st.kind = (s.stageAt i).kind) :
    (s.setStage i st).stages.map (·.kind) = s.stages.map (·.kind) := by
  unfold Stages.setStage
  simp only
  apply List.ext_getElem?
  intro j
  simp only [List.getElem?_map, List.getElem?_set]
  by_cases hj : i = j
  · subst hj
    by_cases hlt : i < s.stages.length
    · simp only [hlt, if_true, Option.map_some, hk]
      unfold Stages.stageAt
      rw [List.getD_eq_getElem?_getD, List.getElem?_eq_getElem hlt]
      simp
    · simp [hlt]
  · simp [hj]

/-- what every message does to the stages -/
structure StagesEvo (s s' : Stages) : Prop where
  mono  : Mono s s'
  cn    : StableCN s s'
  keep  : Keep s s'
  kinds : s'.stages.map (·.kind) = s.stages.map (·.kind)
  sseg  : s'.storeSeg = s.storeSeg
  index : s'.outIsIndex = s.outIsIndex
  nst   : s'.nStages = s.nStages

theorem StagesEvo.refl (s : Stages) : StagesEvo s s :=
  ⟨Mono.refl s, StableCN.refl s, Keep.refl s, rfl, rfl, rfl, rfl⟩

theorem StagesEvo.trans {a b c : Stages} (h1 : StagesEvo a b) (h2 : StagesEvo b c) : StagesEvo a c :=
  ⟨h1.mono.trans h2.mono, h1.cn.trans h2.cn, h1.keep.trans h2.keep, h2.kinds.trans h1.kinds, h2.sseg.trans h1.sseg, h2.index.trans h1.index, h2.nst.trans h1.nst⟩

theorem StagesEvo.of_rest {s s' : Stages} (hr : Rest s s') (hwf : s.WF → s'.WF) (hm : Mono s s') (hcn : StableCN s s') :
    StagesEvo s s' :=
  ⟨hm, hcn, Keep.of_rest hr hwf, by rw [hr.stages], hr.storeSeg, hr.outIsIndex, hr.nStages⟩

theorem nextJob_evo {fix : Patch} {s s' : Stages} {res : Option (WorkUnit × Range)} (hf : fix.shadow = true) (hw : s.WF)
    (h : s.nextJob fix = .ok (s', res)) : PStep s s' ∧ StagesEvo s s' := by
  have hp : PStep s s' := (nextJob_spec hf hw h).pstep
  exact ⟨hp, .of_rest hp.rest hp.wf (nextJob_mono fix hf s s' res hw h) (StableCN.of_step hp fun _ _ hF => hF.elim)⟩

theorem markJobSuccess_evo {s s' : Stages} {u : WorkUnit} {l : List WorkUnit} (h : s.markJobSuccess u = .ok (s', l))
    (hw : s.WF) (hs : s.getState u.seg u.stage = .scheduled) : StagesEvo s s' := by
  have t := markJobSuccess_tstep h
  refine .of_rest t.rest t.wf (markJobSuccess_mono h hw) (StableCN.of_step t.step ?_)
  intro seg stg hT
  rcases hT.2 with e | e
  · rw [hT.1, e, hs]; simp
  · rw [e]; simp

theorem mergeCompleted_evo {s s' : Stages} {u : WorkUnit} (h : s.mergeCompleted u = .ok s') (hw : s.WF)
    (hm : s.getState u.seg u.stage = .merging) : StagesEvo s s' := by
  obtain ⟨s0, hs0, rfl⟩ := mergeCompleted_eq h
  have t0 := transition_tstep hs0
  have hcn0 : StableCN s s0 := StableCN.of_step t0.step (by intro seg stg hT; rw [hT.1, hT.2, hm]; simp)
  refine ⟨mergeCompleted_mono h hw, fun seg stg hst => by rw [moveForward_getState]; exact hcn0 seg stg hst,
    mergeCompleted_keep h, ?_, t0.rest.storeSeg, t0.rest.outIsIndex,
    (moveForward_stageAt s0 u.stage 0).2.2.2.2.trans t0.rest.nStages⟩
  rw [← t0.rest.stages]
  exact setStage_kinds s0 u.stage _ rfl

structure MergeOK (s : Stages) (A : List Cmd) : Prop where
  prev : ∀ u, Cmd.merge u ∈ A → s.previousUnitComplete u = true
  next : ∀ u, Cmd.merge u ∈ A → ∃ i, (s.stageAt i).kind = .store ∧ u = ⟨(s.stageAt i).next, (s.stageAt i).idx⟩

theorem MergeOK.change {s s' : Stages} {A : List Cmd} (h : MergeOK s A) (hcn : StableCN s s') (hst : s'.stages = s.stages) :
    MergeOK s' A :=
  ⟨fun u hm => previousUnitComplete_stable hcn u (h.prev u hm),
   fun u hm => by unfold Stages.stageAt; rw [hst]; exact h.next u hm⟩

theorem MergeOK.mono {s : Stages} {A B : List Cmd} (h : MergeOK s A) (hBA : ∀ u, Cmd.merge u ∈ B → Cmd.merge u ∈ A) :
    MergeOK s B :=
  ⟨fun u hm => h.prev u (hBA u hm), fun u hm => h.next u (hBA u hm)⟩

theorem MergeOK.append {s : Stages} {A B : List Cmd} (h1 : MergeOK s A) (h2 : MergeOK s B) : MergeOK s (A ++ B) :=
  ⟨fun u hm => by rcases List.mem_append.1 hm with hm | hm; exact h1.prev u hm; exact h2.prev u hm,
   fun u hm => by rcases List.mem_append.1 hm with hm | hm; exact h1.next u hm; exact h2.next u hm⟩

theorem MergeOK.of_no_merge (s : Stages) (B : List Cmd) (h : ∀ u, Cmd.merge u ∉ B) : MergeOK s B :=
  ⟨fun u hm => absurd hm (h u), fun u hm => absurd hm (h u)⟩

theorem MergeOK.of_plain (s : Stages) {B : List Cmd} (h : ∀ c ∈ B, c.plain) : MergeOK s B :=
  .of_no_merge s B fun _ hu => nomatch (h _ hu).2.2

/-! ### `tryMergeList` -/

def Cmd.atomic (c : Cmd) : Prop := c.atoms = [c]

theorem atomsList_of_atomic : ∀ (l : List Cmd), (∀ c ∈ l, c.atomic) → atomsList l = l := by
  intro l
  induction l with
  | nil => intro _; rfl
  | cons x xs ih =>
    intro h
    rw [atomsList_cons, h x (List.mem_cons_self), ih (fun c hc => h c (List.mem_cons_of_mem _ hc))]
    rfl

theorem tryMergeCmd_atomic (t : TryMerge) : ∀ c, tryMergeCmd t = some c → c.atomic ∧ c.jobUnit = none ∧ c.jobWorker = none := by
  intro c h
  cases t <;> simp [tryMergeCmd] at h <;> subst h <;> simp [Cmd.atomic, Cmd.atoms, Cmd.jobUnit, Cmd.jobWorker]

theorem tryMergeList_nil {s s' : Stages} {cmds : List (Option Cmd)} (h : tryMergeList [] s = .ok (s', cmds)) :
    s' = s ∧ cmds = [] := by
  cases h; exact ⟨rfl, rfl⟩

theorem tryMergeList_cons {i : Nat} {rest : List Nat} {s s' : Stages} {cmds : List (Option Cmd)}
    (h : tryMergeList (i :: rest) s = .ok (s', cmds)) :
    ∃ s1 t l, s.cmdTryMerge i = .ok (s1, t) ∧ tryMergeList rest s1 = .ok (s', l) ∧ cmds = tryMergeCmd t :: l := by
  simp only [tryMergeList] at h
  split at h
  · cases h
  · rename_i s1 t h1
    split at h
    · cases h
    · rename_i s2 l h2
      cases h
      exact ⟨s1, t, l, h1, h2, rfl⟩

theorem tryMergeList_lift {R : Stages → Stages → Prop} (hr : ∀ s, R s s) (ht : ∀ {a b c}, R a b → R b c → R a c)
    (hs : ∀ {s s' : Stages} {i : Nat} {t : TryMerge}, s.WF → s.cmdTryMerge i = .ok (s', t) → R s s') :
    ∀ (l : List Nat) (s s' : Stages) (cmds : List (Option Cmd)), s.WF → tryMergeList l s = .ok (s', cmds) → R s s' := by
  intro l
  induction l with
  | nil => intro s s' cmds _ h; rw [(tryMergeList_nil h).1]; exact hr s
  | cons i rest ih =>
    intro s s' cmds hw h
    obtain ⟨s1, t, l2, h1, h2, _⟩ := tryMergeList_cons h
    exact ht (hs hw h1) (ih s1 s' l2 ((cmdTryMerge_keep h1).wf hw) h2)

theorem tryMergeList_length : ∀ (l : List Nat) (s s' : Stages) (cmds : List (Option Cmd)),
    tryMergeList l s = .ok (s', cmds) → cmds.length = l.length := by
  intro l
  induction l with
  | nil => intro s s' cmds h; rw [(tryMergeList_nil h).2]; rfl
  | cons i rest ih =>
    intro s s' cmds h
    obtain ⟨s1, t, l2, _, h2, hc⟩ := tryMergeList_cons h
    rw [hc, List.length_cons, ih s1 s' l2 h2, List.length_cons]

theorem tryMergeList_ok : ∀ (l : List Nat) (s : Stages), s.WF → ∃ r, tryMergeList l s = .ok r := by
  intro l
  induction l with
  | nil => intro s _; exact ⟨_, rfl⟩
  | cons i rest ih =>
    intro s hw
    obtain ⟨⟨s1, t⟩, h1⟩ := cmdTryMerge_ok s i hw
    obtain ⟨⟨s2, l2⟩, h2⟩ := ih s1 ((cmdTryMerge_keep h1).wf hw)
    exact ⟨(s2, tryMergeCmd t :: l2), by simp only [tryMergeList, h1, h2]⟩

theorem tryMergeList_atomic : ∀ (l : List Nat) (s s' : Stages) (cmds : List (Option Cmd)),
    tryMergeList l s = .ok (s', cmds) → ∀ c ∈ cmds.filterMap id, c.atomic ∧ c.jobUnit = none ∧ c.jobWorker = none := by
  intro l
  induction l with
  | nil => intro s s' cmds h; rw [(tryMergeList_nil h).2]; exact nofun
  | cons i rest ih =>
    intro s s' cmds h c hc
    obtain ⟨s1, t, l2, _, h2, rfl⟩ := tryMergeList_cons h
    rw [List.filterMap_cons] at hc
    cases htc : tryMergeCmd t with
    | none => rw [htc] at hc; exact ih s1 s' l2 h2 c hc
    | some c0 =>
      rw [htc] at hc
      rcases List.mem_cons.1 hc with rfl | hc
      · exact tryMergeCmd_atomic t c htc
      · exact ih s1 s' l2 h2 c hc

theorem tryMergeList_spec : ∀ (l : List Nat) (s s' : Stages) (cmds : List (Option Cmd)), s.WF →
    tryMergeList l s = .ok (s', cmds) →
    TStep (fun seg stg => s.getState seg stg = .partialPresent) s s' ∧
    (∀ u, some (Cmd.merge u) ∈ cmds → s'.getState u.seg u.stage = .merging ∧ s.getState u.seg u.stage = .partialPresent) ∧
    ((cmds.filterMap id).filterMap Cmd.mergeUnit).Nodup ∧
    (∀ c ∈ cmds.filterMap id, c.atomic ∧ c.jobUnit = none ∧ c.jobWorker = none) := by
  intro l
  induction l with
  | nil =>
    intro s s' cmds _ h
    obtain ⟨rfl, rfl⟩ := tryMergeList_nil h
    exact ⟨TStep.refl _ _, nofun, List.nodup_nil, nofun⟩
  | cons i rest ih =>
    intro s s' cmds hw h
    obtain ⟨s1, t, l2, h1, h2, rfl⟩ := tryMergeList_cons h
    obtain ⟨st2, hm2, hnd2, hat2⟩ := ih s1 s' l2 ((cmdTryMerge_keep h1).wf hw) h2
    have hat := tryMergeList_atomic _ _ _ _ h
    cases t with
    | merge u =>
      obtain ⟨_, _, _, hpp, _, hmg, t1⟩ := cmdTryMerge_merge h1 hw
      -- a cell that is PartialPresent after the first merge was so before
      have hPP : ∀ seg stg, s1.getState seg stg = .partialPresent → s.getState seg stg = .partialPresent := by
        intro seg stg h1pp
        by_cases hc : seg = u.seg ∧ stg = u.stage
        · rw [hc.1, hc.2]; exact hpp
        · rcases t1.frame seg stg hc with e | ⟨_, e⟩
          · rw [← e]; exact h1pp
          · rw [e] at h1pp; cases h1pp
      refine ⟨(t1.mono fun x y hxy => by rw [hxy.1, hxy.2]; exact hpp).trans (st2.mono hPP), ?_, ?_, hat⟩
      · intro u' hu'
        rcases List.mem_cons.1 hu' with hu' | hu'
        · cases hu'
          -- the later merges leave a Merging cell alone
          exact ⟨(st2.step.frame u.seg u.stage (by rw [hmg]; nofun) (by rw [hmg]; nofun)).trans hmg, hpp⟩
        · exact ⟨(hm2 u' hu').1, hPP _ _ (hm2 u' hu').2⟩
      · simp only [tryMergeCmd, List.filterMap_cons, id, Cmd.mergeUnit]
        refine List.nodup_cons.2 ⟨fun hmem => ?_, hnd2⟩
        obtain ⟨oc, hoc, hid⟩ := List.mem_filterMap.1 (mem_mergeUnit hmem)
        have hid' : oc = some (Cmd.merge u) := hid
        subst hid'
        have := (hm2 u hoc).2
        rw [hmg] at this; cases this
    | _ =>
      have e := cmdTryMerge_other h1 nofun
      subst e
      refine ⟨st2, ?_, by simpa [tryMergeCmd, List.filterMap_cons, Cmd.mergeUnit] using hnd2, hat⟩
      intro u' hu'
      rcases List.mem_cons.1 hu' with hu' | hu'
      · simp [tryMergeCmd] at hu'
      · exact hm2 u' hu'

theorem tryMergeList_tstep {l : List Nat} {s s' : Stages} {cmds : List (Option Cmd)} (hw : s.WF)
    (h : tryMergeList l s = .ok (s', cmds)) : TStep (fun seg stg => s.getState seg stg = .partialPresent) s s' :=
  (tryMergeList_spec l s s' cmds hw h).1

theorem tryMergeList_single {s s' : Stages} {i : Nat} {t : TryMerge} (h : s.cmdTryMerge i = .ok (s', t)) :
    tryMergeList [i] s = .ok (s', [tryMergeCmd t]) := by
  simp only [tryMergeList, h]

theorem tryMergeList_mono : ∀ (l : List Nat) (s s' : Stages) (cmds : List (Option Cmd)), s.WF →
    tryMergeList l s = .ok (s', cmds) → Mono s s' :=
  tryMergeList_lift Mono.refl Mono.trans fun hw h => cmdTryMerge_mono h hw

theorem tryMergeList_stableCN {l : List Nat} {s s' : Stages} {cmds : List (Option Cmd)} (hw : s.WF)
    (h : tryMergeList l s = .ok (s', cmds)) : StableCN s s' :=
  StableCN.of_step (tryMergeList_tstep hw h).step (by intro seg stg hT; rw [hT]; simp)

theorem tryMergeList_evo {l : List Nat} {s s' : Stages} {cmds : List (Option Cmd)} (hw : s.WF)
    (h : tryMergeList l s = .ok (s', cmds)) : StagesEvo s s' :=
  have t := tryMergeList_tstep hw h
  .of_rest t.rest t.wf (tryMergeList_mono l s s' cmds hw h) (tryMergeList_stableCN hw h)

theorem tryMergeList_mergeOK : ∀ (l : List Nat) (s s' : Stages) (cmds : List (Option Cmd)), s.WF →
    tryMergeList l s = .ok (s', cmds) → MergeOK s' (cmds.filterMap id) := by
  intro l
  induction l with
  | nil =>
    intro s s' cmds _ h
    rw [(tryMergeList_nil h).2]
    exact MergeOK.of_no_merge _ _ fun _ => nofun
  | cons i rest ih =>
    intro s s' cmds hw h
    obtain ⟨s1, t, l2, h1, h2, rfl⟩ := tryMergeList_cons h
    have hw1 := (cmdTryMerge_keep h1).wf hw
    have hrest := ih s1 s' l2 hw1 h2
    cases t with
    | merge u =>
      obtain ⟨hu, hkind, _, hpp, hprev, _, t1⟩ := cmdTryMerge_merge h1 hw
      have hcn1 : StableCN s s1 := StableCN.of_step t1.step (by intro seg stg hT; rw [hT.1, hT.2, hpp]; simp)
      have hst : s'.stageAt i = s.stageAt i := (t1.rest.trans (tryMergeList_tstep hw1 h2).rest).stageAt i
      have hfirst : MergeOK s' [Cmd.merge u] :=
        ⟨fun u' hm => by
          cases List.mem_singleton.1 hm
          exact previousUnitComplete_stable (hcn1.trans (tryMergeList_stableCN hw1 h2)) u hprev,
         fun u' hm => by
          cases List.mem_singleton.1 hm
          exact ⟨i, by rw [hst]; exact hkind, by rw [hst]; exact hu⟩⟩
      simpa [tryMergeCmd] using hfirst.append hrest
    | _ => exact hrest.mono fun u hu => by simpa [tryMergeCmd] using hu

theorem tryMergeList_ctrl : ∀ (l : List Nat) (s s' : Stages) (cmds : List (Option Cmd)), s.WF →
    tryMergeList l s = .ok (s', cmds) →
    ∀ c ∈ cmds.filterMap id, (c = Cmd.allStoresCompleted ∨ (∃ u, c = Cmd.mergeNotReady u) ∨ (∃ u, c = Cmd.merge u)) ∧
      (c = Cmd.allStoresCompleted → s'.allStoresCompleted = true) := by
  intro l
  induction l with
  | nil => intro s s' cmds _ h c hc; rw [(tryMergeList_nil h).2] at hc; cases hc
  | cons i rest ih =>
    intro s s' cmds hw h c hc
    obtain ⟨s1, t, l2, h1, h2, rfl⟩ := tryMergeList_cons h
    have hw1 := (cmdTryMerge_keep h1).wf hw
    rw [List.filterMap_cons] at hc
    cases htc : tryMergeCmd t with
    | none => rw [htc] at hc; exact ih s1 s' l2 hw1 h2 c hc
    | some c0 =>
      rw [htc] at hc
      rcases List.mem_cons.1 hc with rfl | hc
      · cases t with
        | nothing => cases htc
        | notReady u => cases htc; exact ⟨Or.inr (Or.inl ⟨u, rfl⟩), nofun⟩
        | merge u => cases htc; exact ⟨Or.inr (Or.inr ⟨u, rfl⟩), nofun⟩
        | allStoresCompleted =>
          cases htc
          refine ⟨Or.inl rfl, fun _ => ?_⟩
          have e := cmdTryMerge_other h1 nofun
          subst e
          have t2 := tryMergeList_tstep hw1 h2
          exact allStoresCompleted_mono (tryMergeList_stableCN hw1 h2) (by rw [t2.rest.stages]) t2.rest.storeSeg
            (cmdTryMerge_all h1)
      · exact ih s1 s' l2 hw1 h2 c hc

/-- the new merges are for units that were PartialPresent, which no command in flight is for -/
theorem BagOK.tryMergeList {s s' : Stages} {p : Pool} {A : List Cmd} {l : List Nat} {cmds : List (Option Cmd)}
    (hA : BagOK s p A) (hw : s.WF) (h : tryMergeList l s = .ok (s', cmds)) : BagOK s' p (A ++ cmds.filterMap id) := by
  obtain ⟨t, hm, hnd, hat⟩ := tryMergeList_spec l s s' cmds hw h
  have hmerge : ∀ {u}, Cmd.merge u ∈ cmds.filterMap id → some (Cmd.merge u) ∈ cmds := fun hmem => by
    obtain ⟨oc, hoc, rfl⟩ := List.mem_filterMap.1 hmem
    exact hoc
  have hA' : BagOK s' p A := hA.step t.step
    (fun u hu hT => by rcases hA.live hu with h | h <;> rw [h] at hT <;> cases hT) fun u sb w hc => (hA.jobs u sb w hc).2
  have e1 : (cmds.filterMap id).filterMap Cmd.jobUnit = [] := List.filterMap_eq_nil_iff.2 fun c hc => (hat c hc).2.1
  have e2 : (cmds.filterMap id).filterMap Cmd.jobWorker = [] := List.filterMap_eq_nil_iff.2 fun c hc => (hat c hc).2.2
  refine hA'.append ⟨fun u sb w hc => (nomatch (hat _ hc).2.1), e1 ▸ List.nodup_nil, e2 ▸ List.nodup_nil,
    fun u hc => (hm u (hmerge hc)).1, hnd⟩ (e1 ▸ nofun) (e2 ▸ nofun) fun u hu hold => ?_
  have h1 := hA.merges u (mem_mergeUnit hold)
  rw [(hm u (hmerge (mem_mergeUnit hu))).2] at h1
  cases h1

structure Inv (st : State) : Prop where
  fix : st.fix.shadow = true
  wf  : st.stages.WF
  ok  : st.stages.StagesOK
  off : st.stages.offset ≤ st.stages.globalSeg.firstIndex
  bag : BagOK st.stages st.pool st.inFlight

/-- what the message delivered must satisfy with respect to the OTHER commands in flight -/
def MsgPre (s : Stages) (p : Pool) (A : List Cmd) : Msg → Prop
  | .jobSucceeded u w => s.getState u.seg u.stage = .scheduled ∧ p.workers[w]? = some WState.working ∧
      u ∉ A.filterMap Cmd.jobUnit ∧ w ∉ A.filterMap Cmd.jobWorker
  | .mergeFinished u => s.getState u.seg u.stage = .merging ∧ u ∉ A.filterMap Cmd.mergeUnit
  | _ => True

/-- the state a message is delivered to, with the other commands in flight `A`: what `update` needs in order not to panic
and to keep the invariants -/
structure MsgReady (st : State) (A : List Cmd) (m : Msg) : Prop where
  fix : st.fix.shadow = true
  wf  : st.stages.WF
  ok  : st.stages.StagesOK
  off : st.stages.offset ≤ st.stages.globalSeg.firstIndex
  bag : BagOK st.stages st.pool A
  pre : MsgPre st.stages st.pool A m

theorem plain_of_simple (c : Cmd) (h1 : c.jobUnit = none) (h2 : c.jobWorker = none) (h3 : c.mergeUnit = none) : c.plain :=
  ⟨h1, h2, h3⟩

/-! ### `exec` -/

structure SameMatrix (s s' : Stages) : Prop where
  get    : ∀ seg stg, s'.getState seg stg = s.getState seg stg
  wf     : s.WF → s'.WF
  ok     : s.StagesOK → s'.StagesOK
  offset : s'.offset = s.offset
  global : s'.globalSeg = s.globalSeg

theorem SameMatrix.refl (s : Stages) : SameMatrix s s := ⟨fun _ _ => rfl, id, id, rfl, rfl⟩

theorem setStage_sameMatrix (s : Stages) (i : Nat) (st : Stage) (hseg : st.seg = (s.stageAt i).seg) :
    SameMatrix s (s.setStage i st) :=
  ⟨setStage_getState s i st hseg, setStage_wf s i st, setStage_stagesOK s i st hseg, rfl, rfl⟩

structure SameButMods (s s' : Stages) : Prop where
  same    : SameMatrix s s'
  stageAt : ∀ i, (s'.stageAt i).next = (s.stageAt i).next ∧ (s'.stageAt i).idx = (s.stageAt i).idx ∧
    (s'.stageAt i).kind = (s.stageAt i).kind
  nStages : s'.nStages = s.nStages
  kinds   : s'.stages.map (·.kind) = s.stages.map (·.kind)
  sseg    : s'.storeSeg = s.storeSeg
  index   : s'.outIsIndex = s.outIsIndex
  states  : s'.states = s.states

theorem SameButMods.refl (s : Stages) : SameButMods s s :=
  ⟨SameMatrix.refl s, fun _ => ⟨rfl, rfl, rfl⟩, rfl, rfl, rfl, rfl, rfl⟩

theorem runMerge_sameButMods {s s' : Stages} {u : WorkUnit} {f f' : Files} (h : runMerge s u f = some (s', f')) :
    SameButMods s s' := by
  unfold runMerge at h
  simp only at h
  split at h
  · cases h
  · cases h
    refine ⟨setStage_sameMatrix s u.stage _ rfl, fun i => ?_, setStage_nStages _ _ _, setStage_kinds s u.stage _ rfl,
      rfl, rfl, rfl⟩
    rw [setStage_stageAt]
    split
    · rename_i hc; rw [← hc.1]; exact ⟨rfl, rfl, rfl⟩
    · exact ⟨rfl, rfl, rfl⟩

theorem exec_fst (st : State) (c : Cmd) :
    (exec st c).1 = st ∨ (∃ u sb w t, c = .job u sb w ∧ (exec st c).1 = { st with files := runJob st.cfg t (sb / st.cfg.interval) st.files }) ∨
    ∃ u s' f', c = .merge u ∧ runMerge st.stages u st.files = some (s', f') ∧
      (exec st c).1 = { st with stages := s', files := f' } := by
  cases c with
  | merge u =>
    rw [exec]
    cases hr : runMerge st.stages u st.files with
    | none => exact Or.inl rfl
    | some p => exact Or.inr (Or.inr ⟨u, p.1, p.2, rfl, hr, rfl⟩)
  | downloadCurrent seg =>
    rw [exec]
    cases st.walker with
    | none => exact Or.inl rfl
    | some w =>
      dsimp only
      cases w.seg.range? seg with
      | none => exact Or.inl rfl
      | some r =>
        dsimp only
        cases st.files.hasOutput r.start r.stop <;> exact Or.inl rfl
  | job u sb w => exact Or.inr (Or.inl ⟨u, sb, w, _, rfl, rfl⟩)
  | _ => exact Or.inl rfl

/-- executing a command changes the files and, for a merge, the `mods` of the merged stage: nothing the scheduler looks at -/
structure ExecFrame (st st1 : State) : Prop where
  fix        : st1.fix = st.fix
  cfg        : st1.cfg = st.cfg
  bag        : st1.bag = st.bag
  ended      : st1.ended = st.ended
  pool       : st1.pool = st.pool
  walker     : st1.walker = st.walker
  outDone    : st1.outDone = st.outDone
  storesDone : st1.storesDone = st.storesDone
  stages     : SameButMods st.stages st1.stages

theorem exec_same (st : State) (c : Cmd) : ExecFrame st (exec st c).1 := by
  rcases exec_fst st c with e | ⟨_, _, _, _, _, e⟩ | ⟨u, s', f', _, hr, e⟩ <;> rw [e]
  · exact ⟨rfl, rfl, rfl, rfl, rfl, rfl, rfl, rfl, SameButMods.refl _⟩
  · exact ⟨rfl, rfl, rfl, rfl, rfl, rfl, rfl, rfl, SameButMods.refl _⟩
  · exact ⟨rfl, rfl, rfl, rfl, rfl, rfl, rfl, rfl, runMerge_sameButMods hr⟩

theorem exec_plain (st : State) (c : Cmd) (hc : c.plain) (hnb : ∀ l, c ≠ .batch l) :
    (exec st c).1.stages = st.stages ∧ (exec st c).1.files = st.files ∧ (exec st c).1.walker = st.walker ∧
    (exec st c).1.outDone = st.outDone ∧ (exec st c).1.storesDone = st.storesDone := by
  rcases exec_fst st c with e | ⟨_, _, _, _, rfl, _⟩ | ⟨_, _, _, rfl, _⟩
  · rw [e]; exact ⟨rfl, rfl, rfl, rfl, rfl⟩
  · exact nomatch hc.1
  · exact nomatch hc.2.2

theorem BagOK.sameMatrix {s s' : Stages} {p : Pool} {A : List Cmd} (h : BagOK s p A) (hs : SameMatrix s s') : BagOK s' p A :=
  h.change (fun seg stg _ => hs.get seg stg) (fun _ hw => hw)

inductive Answers : Cmd → Msg → Prop
  | sched : Answers .scheduleNextJob .scheduleNextJob
  | tick : Answers .tick .scheduleNextJob
  | all : Answers .allStoresCompleted .allStoresCompleted
  | notReady (u : WorkUnit) : Answers (.mergeNotReady u) (.mergeNotReady u)
  | merged (u : WorkUnit) : Answers (.merge u) (.mergeFinished u)
  | mergeFailed (u : WorkUnit) : Answers (.merge u) (.mergeFailed u)
  | dl : Answers .downloadSegment .downloadSegment
  | absent (seg : Nat) : Answers (.downloadCurrent seg) .fileNotPresent
  | present (seg : Nat) : Answers (.downloadCurrent seg) .fileDownloaded
  | wc : Answers .walkerCompleted .walkerCompleted
  | job (u : WorkUnit) (sb w : Nat) : Answers (.job u sb w) (.jobSucceeded u w)

theorem exec_snd (st : State) (c : Cmd) :
    match (exec st c).2 with
    | .msg m => Answers c m
    | .batch l => c = .batch l
    | .quit b => (c = .shutdown ∧ b = false) ∨ c = .quit b := by
  cases c with
  | merge u =>
    rw [exec]
    cases runMerge st.stages u st.files with
    | none => exact Answers.mergeFailed u
    | some p => exact Answers.merged u
  | downloadCurrent seg =>
    rw [exec]
    cases st.walker with
    | none => exact Answers.absent seg
    | some w =>
      dsimp only
      cases w.seg.range? seg with
      | none => exact Answers.absent seg
      | some r =>
        dsimp only
        cases st.files.hasOutput r.start r.stop with
        | true => exact Answers.present seg
        | false => exact Answers.absent seg
  | batch l => rfl
  | scheduleNextJob => exact Answers.sched
  | allStoresCompleted => exact Answers.all
  | mergeNotReady u => exact Answers.notReady u
  | downloadSegment => exact Answers.dl
  | walkerCompleted => exact Answers.wc
  | shutdown => exact Or.inl ⟨rfl, rfl⟩
  | quit e => exact Or.inr rfl
  | tick => exact Answers.tick
  | job u sb w => exact Answers.job u sb w

theorem exec_answers (st : State) (c : Cmd) (m : Msg) (h : (exec st c).2 = .msg m) : Answers c m := by
  have := exec_snd st c; rw [h] at this; exact this

theorem exec_batch_inv (st : State) (c : Cmd) (l : List Cmd) (h : (exec st c).2 = .batch l) :
    c = .batch l ∧ (exec st c).1 = st := by
  have := exec_snd st c; rw [h] at this; subst this; exact ⟨rfl, rfl⟩

theorem exec_quit_cases (st : State) (c : Cmd) (b : Bool) (h : (exec st c).2 = .quit b) :
    ((c = .shutdown ∧ b = false) ∨ c = .quit b) ∧ (exec st c).1 = st := by
  have := exec_snd st c; rw [h] at this
  exact ⟨this, by rcases this with ⟨rfl, _⟩ | rfl <;> rfl⟩

theorem exec_msg_pre (st : State) (c : Cmd) (A : List Cmd) (m : Msg)
    (hA : BagOK st.stages st.pool (c :: A)) (hm : (exec st c).2 = .msg m) :
    MsgPre (exec st c).1.stages (exec st c).1.pool A m := by
  cases exec_answers st c m hm with
  | job u sb w =>
    have hj := hA.jobs u sb w (List.mem_cons_self)
    have hU := hA.jobU
    have hW := hA.jobW
    simp only [List.filterMap_cons, Cmd.jobUnit, Cmd.jobWorker] at hU hW
    exact ⟨by rw [(exec_same st _).stages.same.get]; exact hj.1, by rw [(exec_same st _).pool]; exact hj.2, (List.nodup_cons.1 hU).1, (List.nodup_cons.1 hW).1⟩
  | merged u =>
    have hU := hA.mergeU
    simp only [List.filterMap_cons, Cmd.mergeUnit] at hU
    exact ⟨by rw [(exec_same st _).stages.same.get]; exact hA.merges u (List.mem_cons_self), (List.nodup_cons.1 hU).1⟩
  | _ => trivial

theorem jobMods_outputs (k seg t j : Nat) (l : List Nat) (i : Nat) (f : Files) :
    (jobMods k seg t j l i f).outputs = f.outputs := by
  fun_induction jobMods k seg t j l i f
  case case1 => rfl
  case case2 ih => exact ih
  case case3 ih => exact ih
  case case4 ih => rw [ih]; unfold Files.addPartial; split <;> rfl
  case case5 ih => rw [ih]; unfold Files.addFull; split <;> rfl

theorem jobStages_outputs (k seg t : Nat) (l : List StageCfg) (j : Nat) (f : Files) :
    (jobStages k seg t l j f).outputs = f.outputs := by
  fun_induction jobStages k seg t l j f
  case case1 => rfl
  case case2 => rfl
  case case3 ih => rw [ih, jobMods_outputs]
  case case4 ih => exact ih
theorem runJob_outputs (c : Cfg) (t seg : Nat) (f : Files) (a b : Nat) (h : f.hasOutput a b = true) :
    (runJob c t seg f).hasOutput a b = true := by
  have keep : (jobStages c.interval seg t c.graph 0 f).hasOutput a b = true := by
    unfold Files.hasOutput at h ⊢
    rw [jobStages_outputs]; exact h
  unfold runJob
  simp only
  split
  · exact h
  · split
    · split
      · unfold Files.addOutput
        split
        · exact keep
        · unfold Files.hasOutput at keep ⊢
          simp only [List.any_append, Bool.or_eq_true]
          exact Or.inl keep
      · exact keep
    · exact keep

theorem squashMod_outputs {st : Stage} {seg i : Nat} {m m' : ModState} {f f' : Files}
    (h : squashMod st seg i m f = some (m', f')) : f'.outputs = f.outputs := by
  revert h
  fun_cases squashMod st seg i m f
  case case1 => intro h; cases h; rfl
  case case3 => intro h; cases h; rfl
  case case4 =>
    -- the partial is replaced by the full snapshot: both are store files
    intro h
    injection h with h; injection h with _ h2
    rw [← h2]
    show (if _ then Files.addFull _ _ _ _ _ else _).outputs = _
    split
    · unfold Files.addFull; split <;> rfl
    · rfl
  all_goals intro h; cases h

theorem squashMods_outputs (st : Stage) (seg : Nat) (l : List ModState) (i : Nat) (f : Files) (ms : List ModState) (f' : Files)
    (h : squashMods st seg l i f = some (ms, f')) : f'.outputs = f.outputs := by
  fun_induction squashMods st seg l i f generalizing ms f'
  case case1 => cases h; rfl
  case case2 => cases h
  case case3 => cases h
  case case4 h1 _ _ h2 ih => cases h; rw [ih _ _ h2, squashMod_outputs h1]

theorem exec_outputs (st : State) (c : Cmd) (a b : Nat) (h : st.files.hasOutput a b = true) :
    (exec st c).1.files.hasOutput a b = true := by
  rcases exec_fst st c with e | ⟨_, _, _, _, _, e⟩ | ⟨u, s', f', _, hr, e⟩ <;> rw [e]
  · exact h
  · exact runJob_outputs _ _ _ _ a b h
  · unfold runMerge at hr
    simp only at hr
    split at hr
    · cases hr
    · rename_i ms f2 hsq
      cases hr
      unfold Files.hasOutput at h ⊢
      rw [squashMods_outputs _ _ _ _ _ _ _ hsq]; exact h

theorem exec_present (st : State) (seg : Nat) (h : (exec st (.downloadCurrent seg)).2 = .msg .fileDownloaded) :
    ∃ w r, st.walker = some w ∧ w.seg.range? seg = some r ∧ st.files.hasOutput r.start r.stop = true := by
  unfold exec at h; simp only at h
  split at h
  · injection h with h; cases h
  · rename_i w hw
    split at h
    · injection h with h; cases h
    · rename_i r hr
      split at h
      · rename_i hf; exact ⟨w, r, hw, hr, hf⟩
      · injection h with h; cases h

theorem ite_some_toList (p : Prop) [Decidable p] (a : Cmd) : ∀ x ∈ (if p then some a else none).toList, x = a := by
  intro x hx
  split at hx
  · simpa using hx
  · cases hx

theorem mem_optAtoms_batch2 {x : Cmd} {a b : Option Cmd} :
    x ∈ optAtoms (mkBatch [a, b]) ↔ x ∈ optAtoms a ∨ x ∈ optAtoms b := by
  rw [optAtoms_batch]
  simp

/-- one try-merge command for the unit's stage and one for each shadowed unit; a single one is not wrapped in a batch -/
theorem jobSucceeded_answer (sh : List WorkUnit) (tm : List (Option Cmd)) (dl : Option Cmd)
    (hdl : ∀ c ∈ dl.toList, c = Cmd.downloadSegment) (hat : ∀ c ∈ tm.filterMap id, c.atomic)
    (hlen : tm.length = sh.length + 1) :
    optAtoms (mkBatch [if sh.isEmpty then tm.headD none else mkBatch tm, some Cmd.scheduleNextJob, dl]) =
      tm.filterMap id ++ Cmd.scheduleNextJob :: dl.toList := by
  have hfirst : optAtoms (if sh.isEmpty then tm.headD none else mkBatch tm) = tm.filterMap id := by
    split
    · rename_i hemp
      have : sh = [] := by simpa using hemp
      subst this
      match tm, hlen with
      | [x], _ =>
        cases x with
        | none => rfl
        | some c => exact (optAtoms_some c).trans (hat c (by simp))
    · rw [optAtoms_mkBatch]; exact atomsList_of_atomic _ hat
  rw [optAtoms_batch]
  simp only [List.flatMap_cons, List.flatMap_nil, List.append_nil, hfirst, optAtoms_eq_toList rfl hdl]
  rfl

/-- `oc` consists of the try-merge commands `tm`, `scheduleNextJob` and possibly `downloadSegment` -/
def TryMergeAnswer (tm : List (Option Cmd)) (oc : Option Cmd) : Prop :=
  ∃ P, (optAtoms oc).Perm (tm.filterMap id ++ P) ∧ ∀ c ∈ P, c = Cmd.scheduleNextJob ∨ c = Cmd.downloadSegment

theorem job_answer {u : WorkUnit} {sh : List WorkUnit} {s1 s2 : Stages} {tm : List (Option Cmd)} (walker : Option Walker)
    (h2 : tryMergeList (u.stage :: sh.map (·.stage)) s1 = .ok (s2, tm)) :
    TryMergeAnswer tm (mkBatch [if sh.isEmpty then tm.headD none else mkBatch tm, some Cmd.scheduleNextJob,
      if walker.isSome then some Cmd.downloadSegment else none]) :=
  ⟨_, .of_eq (jobSucceeded_answer sh tm _ (ite_some_toList _ _) (fun c hc => (tryMergeList_atomic _ _ _ _ h2 c hc).1)
      ((tryMergeList_length _ _ _ _ h2).trans (by simp))),
    fun c hc => (List.mem_cons.1 hc).imp_right (ite_some_toList _ _ c)⟩

theorem optAtoms_tryMergeCmd (t : TryMerge) : optAtoms (tryMergeCmd t) = [tryMergeCmd t].filterMap id := by
  cases t <;> rfl

theorem merged_answer (t : TryMerge) : TryMergeAnswer [tryMergeCmd t] (mkBatch [some Cmd.scheduleNextJob, tryMergeCmd t]) := by
  refine ⟨[Cmd.scheduleNextJob], ?_, fun c hc => Or.inl (List.mem_singleton.1 hc)⟩
  rw [optAtoms_batch]
  simp only [List.flatMap_cons, List.flatMap_nil, List.append_nil, optAtoms_tryMergeCmd]
  exact List.perm_append_comm (l₁ := [Cmd.scheduleNextJob])

namespace TryMergeAnswer
variable {s s' : Stages} {A : List Cmd} {l : List Nat} {tm : List (Option Cmd)} {oc : Option Cmd}

theorem plain {P : List Cmd} (hP : ∀ c ∈ P, c = Cmd.scheduleNextJob ∨ c = Cmd.downloadSegment) : ∀ c ∈ P, c.plain :=
  fun c hc => by rcases hP c hc with rfl | rfl <;> exact ⟨rfl, rfl, rfl⟩

theorem bagOK {p : Pool} (ha : TryMergeAnswer tm oc) (hA : BagOK s p A) (hw : s.WF) (h : tryMergeList l s = .ok (s', tm)) :
    BagOK s' p (A ++ optAtoms oc) := by
  obtain ⟨P, hperm, hP⟩ := ha
  refine BagOK.perm ?_ (hperm.symm.append_left A)
  rw [← List.append_assoc]
  exact (hA.tryMergeList hw h).append_plain (plain hP)

theorem mergeOK (ha : TryMergeAnswer tm oc) (hM : MergeOK s A) (hw : s.WF) (h : tryMergeList l s = .ok (s', tm)) :
    MergeOK s' (A ++ optAtoms oc) := by
  obtain ⟨P, hperm, hP⟩ := ha
  refine (hM.change (tryMergeList_stableCN hw h) (tryMergeList_tstep hw h).rest.stages).append ?_
  exact ((tryMergeList_mergeOK l s s' tm hw h).append (.of_plain _ (plain hP))).mono fun u hu => hperm.mem_iff.1 hu

end TryMergeAnswer

/-- not an equivalence: `shutdown` is also the answer for an index output whose last stage is complete -/
theorem cmdShutdown_cases (st : State) :
    (cmdShutdownWhenComplete st = some .shutdown ∧ st.outDone = true ∧ st.storesDone = true) ∨
    (cmdShutdownWhenComplete st = none ∧
      ¬(st.outDone = true ∧ st.storesDone = true ∧ (st.walker.isSome = true ∨ st.stages.outIsIndex = false))) := by
  fun_cases cmdShutdownWhenComplete st
  case case1 hb _ _ => exact Or.inl ⟨rfl, hb⟩
  case case2 _ hw hi => exact Or.inr ⟨rfl, fun hc => hc.2.2.elim (by rw [hw]; nofun) (by rw [hi.1]; nofun)⟩
  case case3 hb _ _ => exact Or.inl ⟨rfl, hb⟩
  case case4 hb => exact Or.inr ⟨rfl, fun hc => hb ⟨hc.1, hc.2.1⟩⟩

theorem shutdown_atoms (st : State) (x : Cmd) (h : x ∈ optAtoms (cmdShutdownWhenComplete st)) :
    x = Cmd.shutdown ∧ st.outDone = true ∧ st.storesDone = true := by
  rcases cmdShutdown_cases st with ⟨e, hb⟩ | ⟨e, _⟩ <;> rw [e] at h
  · exact ⟨List.mem_singleton.1 h, hb⟩
  · cases h

theorem shutdown_present (st : State) (h1 : st.outDone = true) (h2 : st.storesDone = true)
    (h3 : st.walker.isSome = true ∨ st.stages.outIsIndex = false) :
    Cmd.shutdown ∈ optAtoms (cmdShutdownWhenComplete st) := by
  rcases cmdShutdown_cases st with ⟨e, _⟩ | ⟨_, hn⟩
  · rw [e]; exact List.mem_singleton.2 rfl
  · exact absurd ⟨h1, h2, h3⟩ hn

/-! ### `update` -/

/-- one constructor per branch of `update` that does not panic -/
inductive Upd (st : State) (e : Bool) : Msg → State → Option Cmd → Prop
  | jobSucceeded {u w s1 sh pool s2 tm} : st.stages.markJobSuccess u = .ok (s1, sh) → st.pool.giveBack w = .ok pool →
      tryMergeList (u.stage :: sh.map (·.stage)) s1 = .ok (s2, tm) →
      Upd st e (.jobSucceeded u w) { st with stages := s2, pool := pool }
        (mkBatch [if sh.isEmpty then tm.headD none else mkBatch tm, some .scheduleNextJob,
          if st.walker.isSome then some .downloadSegment else none])
  | busy {pool retry} : st.pool.workerAvailable e = (pool, false, retry) →
      Upd st e .scheduleNextJob { st with pool := pool } (if !retry then none else mkBatch [some .tick])
  | noJob {pool retry s1} : st.pool.workerAvailable e = (pool, true, retry) → st.stages.nextJob st.fix = .ok (s1, none) →
      Upd st e .scheduleNextJob { st with pool := pool, stages := s1 } none
  | handOut {pool retry s1 u r pool' w} : st.pool.workerAvailable e = (pool, true, retry) →
      st.stages.nextJob st.fix = .ok (s1, some (u, r)) → pool.borrow = .ok (pool', w) →
      Upd st e .scheduleNextJob { st with pool := pool', stages := s1 }
        (mkBatch [some (.job u r.start w), some .scheduleNextJob])
  | jobFailed : Upd st e .jobFailed st (mkBatch [some (.quit true)])
  | mergeFinished {u s1 s2 t} : st.stages.mergeCompleted u = .ok s1 → s1.cmdTryMerge u.stage = .ok (s2, t) →
      Upd st e (.mergeFinished u) { st with stages := s2 } (mkBatch [some .scheduleNextJob, tryMergeCmd t])
  | allStoresCompleted : Upd st e .allStoresCompleted { st with storesDone := true }
      (mkBatch [some .scheduleNextJob, cmdShutdownWhenComplete { st with storesDone := true }])
  | mergeFailed {u} : Upd st e (.mergeFailed u) st (mkBatch [some (.quit true)])
  | fileNotPresent : Upd st e .fileNotPresent { st with walker := st.walker.map fun w => { w with working := false } }
      (mkBatch [some .downloadSegment])
  | fileDownloaded : Upd st e .fileDownloaded
      { st with walker := st.walker.map fun w => { w with cur := w.cur + 1, working := false } }
      (mkBatch [some .downloadSegment])
  | dlIdle : (∀ w, st.walker = some w → w.working = true) → Upd st e .downloadSegment st none
  | dlDone {w} : st.walker = some w → w.working = false → w.isDone = true →
      Upd st e .downloadSegment { st with walker := some { w with working := true } } (some .walkerCompleted)
  | dlNext {w} : st.walker = some w → w.working = false → w.isDone = false →
      Upd st e .downloadSegment { st with walker := some { w with working := true } }
        (mkBatch [some (.downloadCurrent w.cur)])
  | walkerCompleted : Upd st e .walkerCompleted { st with outDone := true }
      (cmdShutdownWhenComplete { st with outDone := true })
  | mergeNotReady {u} : Upd st e (.mergeNotReady u) st none

theorem update_inv {st st' : State} {m : Msg} {e : Bool} {oc : Option Cmd} (h : update st m e = .ok (st', oc)) :
    Upd st e m st' oc := by
  suffices ∀ r, update st m e = .ok r → Upd st e m r.1 r.2 from this _ h
  -- the branches that panic go, the others give back their own state and answer
  fun_cases update st m e <;> rintro _ ⟨⟩
  case case4 h1 _ hp _ _ h2 _ _ => exact .jobSucceeded h1 hp h2
  case case5 avail retry hwa _ ha hr =>
    cases avail
    · cases retry
      · exact .busy hwa
      · cases hr
    · cases ha
  case case6 avail retry hwa _ ha hr =>
    cases avail
    · cases retry
      · exact absurd rfl hr
      · exact .busy hwa
    · cases ha
  case case8 avail _ hwa _ ha _ hnj =>
    cases avail
    · exact absurd rfl ha
    · exact .noJob hwa hnj
  case case10 avail _ hwa _ ha _ _ _ hnj _ _ hb =>
    cases avail
    · exact absurd rfl ha
    · exact .handOut hwa hnj hb
  case case11 => exact .jobFailed
  case case14 h1 _ _ h2 => exact .mergeFinished h1 h2
  case case15 => exact .allStoresCompleted
  case case16 => exact .mergeFailed
  case case17 => exact .fileNotPresent
  case case18 => exact .fileDownloaded
  case case19 hw => exact .dlIdle fun w hw' => by rw [hw] at hw'; cases hw'
  case case20 hw hwk => exact .dlIdle fun w hw' => by rw [hw] at hw'; cases hw'; exact hwk
  case case21 hw hwk _ _ hd => exact .dlDone hw (Bool.eq_false_iff.2 hwk) hd
  case case22 hw hwk _ _ hd => exact .dlNext hw (Bool.eq_false_iff.2 hwk) (Bool.eq_false_iff.2 hd)
  case case23 => exact .walkerCompleted
  case case24 => exact .mergeNotReady
variable {st st' : State} {e : Bool} {m : Msg} {oc : Option Cmd}

theorem Upd.frame (h : Upd st e m st' oc) :
    st'.fix = st.fix ∧ st'.cfg = st.cfg ∧ st'.bag = st.bag ∧ st'.ended = st.ended ∧ st'.files = st.files := by
  cases h <;> exact ⟨rfl, rfl, rfl, rfl, rfl⟩

theorem Upd.stagesEvo {A : List Cmd} (h : Upd st e m st' oc) (r : MsgReady st A m) : StagesEvo st.stages st'.stages := by
  obtain ⟨hf, hw, _, _, _, hpre⟩ := r
  cases h with
  | jobSucceeded h1 _ h2 =>
    have e1 := markJobSuccess_evo h1 hw hpre.1
    exact e1.trans (tryMergeList_evo (e1.keep.wf hw) h2)
  | noJob _ hnj | handOut _ hnj _ => exact (nextJob_evo hf hw hnj).2
  | mergeFinished h1 h2 =>
    have e1 := mergeCompleted_evo h1 hw hpre.1
    exact e1.trans (tryMergeList_evo (e1.keep.wf hw) (tryMergeList_single h2))
  | _ => exact StagesEvo.refl _

structure Evo (st st' : State) (m : Msg) : Prop where
  files      : st'.files = st.files
  ended      : st'.ended = st.ended
  outDone    : st'.outDone = (st.outDone || m == .walkerCompleted)
  storesDone : st'.storesDone = (st.storesDone || m == .allStoresCompleted)
  outIsIndex : st'.stages.outIsIndex = st.stages.outIsIndex
  walker     : st'.walker = match m with
    | .fileNotPresent => st.walker.map fun w => { w with working := false }
    | .fileDownloaded => st.walker.map fun w => { w with cur := w.cur + 1, working := false }
    | .downloadSegment => st.walker.map fun w => if w.working then w else { w with working := true }
    | _ => st.walker

theorem Upd.evo {A : List Cmd} (h : Upd st e m st' oc) (r : MsgReady st A m) : Evo st st' m := by
  have hi := (h.stagesEvo r).index
  cases h with
  | dlIdle hwk =>
    refine ⟨rfl, rfl, by simp, by simp, rfl, ?_⟩
    cases hw' : st.walker with
    | none => rfl
    | some w => simp [hwk w hw']
  | dlDone hw' hwk _ | dlNext hw' hwk _ => exact ⟨rfl, rfl, by simp, by simp, rfl, by simp [hw', hwk]⟩
  | _ => exact ⟨rfl, rfl, by simp, by simp, hi, rfl⟩

def Cmd.isDlCur : Cmd → Bool
  | .downloadCurrent _ => true
  | _ => false

/-- the control commands in the answer `oc` of `update`.  A field `…In` says when such a command can be in the answer, a field
`…Out` when it must be (dl = `downloadSegment`, cur = `downloadCurrent`, wc = `walkerCompleted`, shut = `shutdown`,
all = `allStoresCompleted`) -/
structure CtrlAtoms (st st' : State) (m : Msg) (oc : Option Cmd) : Prop where
  dlOut : (m = .fileNotPresent ∨ m = .fileDownloaded) → Cmd.downloadSegment ∈ optAtoms oc
  curIn : ∀ seg, Cmd.downloadCurrent seg ∈ optAtoms oc →
    m = .downloadSegment ∧ ∃ w, st.walker = some w ∧ w.working = false ∧ w.isDone = false ∧ seg = w.cur
  curOut : m = .downloadSegment → ∀ w, st.walker = some w → w.working = false →
    (w.isDone = true → Cmd.walkerCompleted ∈ optAtoms oc) ∧ (w.isDone = false → Cmd.downloadCurrent w.cur ∈ optAtoms oc)
  wcIn : Cmd.walkerCompleted ∈ optAtoms oc →
    m = .downloadSegment ∧ ∃ w, st.walker = some w ∧ w.working = false ∧ w.isDone = true
  curCount : ((optAtoms oc).filter Cmd.isDlCur).length ≤ 1
  shutIn : Cmd.shutdown ∈ optAtoms oc → st'.outDone = true ∧ st'.storesDone = true
  shutOut : (m = .allStoresCompleted ∨ m = .walkerCompleted) → st'.outDone = true → st'.storesDone = true →
    (st'.walker.isSome = true ∨ st'.stages.outIsIndex = false) → Cmd.shutdown ∈ optAtoms oc
  quitF : Cmd.quit false ∉ optAtoms oc
  allIn : Cmd.allStoresCompleted ∈ optAtoms oc → st'.stages.allStoresCompleted = true

def Cmd.isCtrl : Cmd → Bool
  | .downloadCurrent _ | .walkerCompleted | .shutdown | .quit false => true
  | _ => false

theorem filter_dlCur_nil {l : List Cmd} : (l.filter Cmd.isDlCur).length = 0 ↔ ∀ seg, Cmd.downloadCurrent seg ∉ l := by
  rw [List.length_eq_zero_iff, List.filter_eq_nil_iff]
  constructor
  · intro h seg hm; exact h _ hm rfl
  · intro h c hc hcur
    cases c <;> simp [Cmd.isDlCur] at hcur
    exact h _ hc

/-- the messages that `update` may answer with a command `Cmd.isCtrl` -/
def Msg.isCtrl : Msg → Bool
  | .downloadSegment | .allStoresCompleted | .walkerCompleted => true
  | _ => false

theorem CtrlAtoms.of_noWalker (hnoDl : ∀ seg, Cmd.downloadCurrent seg ∉ optAtoms oc) (hnoWc : Cmd.walkerCompleted ∉ optAtoms oc)
    (hm : m ≠ .downloadSegment)
    (dlOut : (m = .fileNotPresent ∨ m = .fileDownloaded) → Cmd.downloadSegment ∈ optAtoms oc)
    (shutIn : Cmd.shutdown ∈ optAtoms oc → st'.outDone = true ∧ st'.storesDone = true)
    (shutOut : (m = .allStoresCompleted ∨ m = .walkerCompleted) → st'.outDone = true → st'.storesDone = true →
      (st'.walker.isSome = true ∨ st'.stages.outIsIndex = false) → Cmd.shutdown ∈ optAtoms oc)
    (quitF : Cmd.quit false ∉ optAtoms oc)
    (allIn : Cmd.allStoresCompleted ∈ optAtoms oc → st'.stages.allStoresCompleted = true) : CtrlAtoms st st' m oc :=
  ⟨dlOut, fun seg hs => absurd hs (hnoDl seg), fun hc => absurd hc hm, fun hs => absurd hs hnoWc,
   by rw [filter_dlCur_nil.2 hnoDl]; exact Nat.zero_le 1, shutIn, shutOut, quitF, allIn⟩

theorem CtrlAtoms.of_quiet (h : ∀ x ∈ optAtoms oc, x.isCtrl = false)
    (hall : Cmd.allStoresCompleted ∈ optAtoms oc → st'.stages.allStoresCompleted = true)
    (dlOut : (m = .fileNotPresent ∨ m = .fileDownloaded) → Cmd.downloadSegment ∈ optAtoms oc)
    (hm : m.isCtrl = false) : CtrlAtoms st st' m oc :=
  .of_noWalker (fun seg hs => by cases h _ hs) (fun hs => by cases h _ hs) (by rintro rfl; cases hm) dlOut
    (fun hs => by cases h _ hs) (by rintro (rfl | rfl) <;> cases hm) (fun hs => by cases h _ hs) hall

theorem TryMergeAnswer.ctrl {l : List Nat} {s : Stages} {tm : List (Option Cmd)} (ha : TryMergeAnswer tm oc) (hw : s.WF)
    (h : tryMergeList l s = .ok (st'.stages, tm)) (hm : m.isCtrl = false) (hm' : m ≠ .fileNotPresent ∧ m ≠ .fileDownloaded) :
    CtrlAtoms st st' m oc := by
  obtain ⟨P, hperm, hP⟩ := ha
  have hctrl := tryMergeList_ctrl l s _ tm hw h
  refine .of_quiet (fun x hx => ?_) (fun hs => ?_) (fun hc => hc.elim (absurd · hm'.1) (absurd · hm'.2)) hm
  · rcases List.mem_append.1 (hperm.mem_iff.1 hx) with hx | hx
    · rcases (hctrl x hx).1 with rfl | ⟨u', rfl⟩ | ⟨u', rfl⟩ <;> rfl
    · rcases hP x hx with rfl | rfl <;> rfl
  · rcases List.mem_append.1 (hperm.mem_iff.1 hs) with hx | hx
    · exact (hctrl _ hx).2 rfl
    · rcases hP _ hx with h | h <;> cases h

/-- the answer to a message that sets a final flag: `cmdShutdownWhenComplete` of the new state, possibly with `scheduleNextJob` -/
theorem CtrlAtoms.of_flag (hm : m = .allStoresCompleted ∨ m = .walkerCompleted)
    (hin : ∀ x ∈ optAtoms oc, x = Cmd.scheduleNextJob ∨ x ∈ optAtoms (cmdShutdownWhenComplete st'))
    (hout : ∀ x ∈ optAtoms (cmdShutdownWhenComplete st'), x ∈ optAtoms oc) : CtrlAtoms st st' m oc := by
  have key : ∀ x ∈ optAtoms oc, x ≠ Cmd.scheduleNextJob → x = Cmd.shutdown ∧ st'.outDone = true ∧ st'.storesDone = true :=
    fun x hx hne => shutdown_atoms st' x ((hin x hx).resolve_left hne)
  exact .of_noWalker (fun seg hs => nomatch (key _ hs nofun).1) (fun hs => nomatch (key _ hs nofun).1)
    (by rcases hm with rfl | rfl <;> nofun) (by rcases hm with rfl | rfl <;> nofun)
    (fun hs => (key _ hs nofun).2) (fun _ h1 h2 h3 => hout _ (shutdown_present st' h1 h2 h3))
    (fun hs => nomatch (key _ hs nofun).1) (fun hs => nomatch (key _ hs nofun).1)

/-- the answer to `downloadSegment`: for an idle walker the completion signal or the download of its current segment, and
nothing else -/
theorem CtrlAtoms.of_dl (hlen : (optAtoms oc).length ≤ 1)
    (hin : ∀ x ∈ optAtoms oc, ∃ w, st.walker = some w ∧ w.working = false ∧
      x = if w.isDone then Cmd.walkerCompleted else Cmd.downloadCurrent w.cur)
    (hout : ∀ w, st.walker = some w → w.working = false →
      (if w.isDone then Cmd.walkerCompleted else Cmd.downloadCurrent w.cur) ∈ optAtoms oc) :
    CtrlAtoms st st' .downloadSegment oc := by
  have key : ∀ x ∈ optAtoms oc, ∃ w, st.walker = some w ∧ w.working = false ∧
      ((w.isDone = true ∧ x = .walkerCompleted) ∨ (w.isDone = false ∧ x = .downloadCurrent w.cur)) := fun x hx => by
    obtain ⟨w, hw, hnw, rfl⟩ := hin x hx
    cases hd : w.isDone
    · exact ⟨w, hw, hnw, Or.inr ⟨hd, rfl⟩⟩
    · exact ⟨w, hw, hnw, Or.inl ⟨hd, rfl⟩⟩
  refine ⟨fun hc => hc.elim nofun nofun, fun seg hs => ?_, fun _ w hw hnw => ?_, fun hs => ?_,
    Nat.le_trans (List.length_filter_le _ _) hlen, fun hs => ?_, fun hc => hc.elim nofun nofun, fun hs => ?_, fun hs => ?_⟩
  · obtain ⟨w, hw, hnw, ⟨_, hx⟩ | ⟨hd, hx⟩⟩ := key _ hs <;> cases hx
    exact ⟨rfl, w, hw, hnw, hd, rfl⟩
  · have := hout w hw hnw
    exact ⟨fun hd => by rwa [hd] at this, fun hd => by rwa [hd] at this⟩
  · obtain ⟨w, hw, hnw, ⟨hd, hx⟩ | ⟨_, hx⟩⟩ := key _ hs <;> cases hx
    exact ⟨rfl, w, hw, hnw, hd⟩
  · obtain ⟨w, _, _, ⟨_, hx⟩ | ⟨_, hx⟩⟩ := key _ hs <;> cases hx
  · obtain ⟨w, _, _, ⟨_, hx⟩ | ⟨_, hx⟩⟩ := key _ hs <;> cases hx
  · obtain ⟨w, _, _, ⟨_, hx⟩ | ⟨_, hx⟩⟩ := key _ hs <;> cases hx

theorem Upd.ctrl (h : Upd st e m st' oc) (hw : st.stages.WF) : CtrlAtoms st st' m oc := by
  have single : ∀ {a : Cmd}, a.isCtrl = false → ∀ x ∈ [a], x.isCtrl = false := fun ha x hx => List.mem_singleton.1 hx ▸ ha
  cases h with
  | jobSucceeded h1 _ h2 =>
    exact (job_answer st.walker h2).ctrl ((markJobSuccess_tstep h1).wf hw) h2 rfl ⟨nofun, nofun⟩
  | mergeFinished h1 h2 =>
    exact (merged_answer _).ctrl ((mergeCompleted_keep h1).wf hw) (tryMergeList_single h2) rfl ⟨nofun, nofun⟩
  | @busy pool retry _ =>
    cases retry with
    | false => exact .of_quiet nofun nofun nofun rfl
    | true => exact .of_quiet (single rfl) nofun nofun rfl
  | noJob | mergeNotReady => exact .of_quiet nofun nofun nofun rfl
  | handOut => exact .of_quiet (List.forall_mem_cons.2 ⟨rfl, single rfl⟩) nofun nofun rfl
  | jobFailed | mergeFailed => exact .of_quiet (single rfl) nofun nofun rfl
  | fileNotPresent | fileDownloaded =>
    exact .of_quiet (single rfl) nofun (fun _ => List.mem_singleton.2 rfl) rfl
  | allStoresCompleted =>
    exact .of_flag (Or.inl rfl) (fun x hx => (mem_optAtoms_batch2.1 hx).imp_left List.mem_singleton.1)
      fun x hx => mem_optAtoms_batch2.2 (Or.inr hx)
  | walkerCompleted => exact .of_flag (Or.inr rfl) (fun x hx => Or.inr hx) fun x hx => hx
  | dlIdle hwk => exact .of_dl (Nat.zero_le 1) nofun fun w hw' hnw => by rw [hwk w hw'] at hnw; cases hnw
  | @dlDone w hw' hnw hd | @dlNext w hw' hnw hd =>
    refine .of_dl (Nat.le_refl 1) (fun x hx => ⟨w, hw', hnw, ?_⟩) fun w' hw'' _ => ?_
    · rw [hd]; exact List.mem_singleton.1 hx
    · rw [hw'] at hw''; cases hw''
      rw [hd]; exact List.mem_singleton.2 rfl

theorem Upd.answer_plain (h : Upd st e m st' oc)
    (hm : ¬((∃ u w, m = .jobSucceeded u w) ∨ (∃ u, m = .mergeFinished u) ∨ m = .scheduleNextJob)) :
    ∀ c ∈ optAtoms oc, c.plain := by
  have single : ∀ {a c : Cmd}, a.plain → c ∈ [a] → c.plain := fun ha hc => List.mem_singleton.1 hc ▸ ha
  have shut : ∀ (s : State), ∀ c ∈ optAtoms (cmdShutdownWhenComplete s), c.plain :=
    fun s c hc => (shutdown_atoms s c hc).1 ▸ ⟨rfl, rfl, rfl⟩
  cases h with
  | jobSucceeded => exact absurd (Or.inl ⟨_, _, rfl⟩) hm
  | mergeFinished => exact absurd (Or.inr (Or.inl ⟨_, rfl⟩)) hm
  | busy | noJob | handOut => exact absurd (Or.inr (Or.inr rfl)) hm
  | mergeNotReady | dlIdle => exact nofun
  | walkerCompleted => exact shut _
  | allStoresCompleted =>
    intro c hc
    rcases mem_optAtoms_batch2.1 hc with hc | hc
    · exact single ⟨rfl, rfl, rfl⟩ hc
    · exact shut _ c hc
  | _ => exact fun c => single ⟨rfl, rfl, rfl⟩

theorem stageAt_store_lt (s : Stages) (i : Nat) (h : (s.stageAt i).kind = .store) : i < s.nStages := by
  apply Nat.lt_of_not_le
  intro hc
  unfold Stages.stageAt at h
  rw [List.getD_eq_getElem?_getD, List.getElem?_eq_none hc] at h
  cases h

theorem previousUnitComplete_congr {s s' : Stages} (h : ∀ seg stg, s'.getState seg stg = s.getState seg stg) (u : WorkUnit) :
    s'.previousUnitComplete u = s.previousUnitComplete u := by
  unfold Stages.previousUnitComplete Stages.getStatePrev
  simp only
  split
  · rfl
  · rw [h]

/-- the other merges in flight after `MergeCompleted u0`: `next` moves only for the stage of `u0`, which has no other merge
in flight -/
theorem MergeOK.mergeCompleted {s s1 : Stages} {A : List Cmd} {u0 : WorkUnit} (hM : MergeOK s A)
    (h : s.mergeCompleted u0 = .ok s1) (hw : s.WF) (hm : s.getState u0.seg u0.stage = .merging) (hidx : s.IdxPos)
    (h0 : ∃ i, (s.stageAt i).kind = .store ∧ u0 = ⟨(s.stageAt i).next, (s.stageAt i).idx⟩)
    (hnew : u0 ∉ A.filterMap Cmd.mergeUnit) : MergeOK s1 A := by
  have e1 := mergeCompleted_evo h hw hm
  obtain ⟨s0, hs0, rfl⟩ := mergeCompleted_eq h
  obtain ⟨i0, hk0, hu0⟩ := h0
  have hpos0 : u0.stage = i0 := by rw [hu0]; exact hidx i0 (stageAt_store_lt _ _ hk0) hk0
  refine ⟨fun u hu => previousUnitComplete_stable e1.cn u (hM.prev u hu), fun u hu => ?_⟩
  obtain ⟨i, hk, hui⟩ := hM.next u hu
  have hne : i ≠ u0.stage := by
    intro hc
    apply hnew
    have : u = u0 := by rw [hui, hu0, hc, hpos0]
    subst this
    exact List.mem_filterMap.2 ⟨_, hu, rfl⟩
  have hst := moveForward_stageAt s0 u0.stage i
  have hs0st : s0.stageAt i = s.stageAt i := (transition_tstep hs0).rest.stageAt i
  exact ⟨i, by rw [hst.2.1, hs0st]; exact hk, by rw [hst.1, hst.2.2.2.1 hne, hs0st]; exact hui⟩

theorem Upd.mergeOK {A : List Cmd} (h : Upd st e m st' oc) (r : MsgReady st A m)
    (hM : MergeOK st.stages A) (hidx : st.stages.IdxPos)
    (hM0 : ∀ u0, m = .mergeFinished u0 → ∃ i, (st.stages.stageAt i).kind = .store ∧
      u0 = ⟨(st.stages.stageAt i).next, (st.stages.stageAt i).idx⟩) :
    MergeOK st'.stages (A ++ optAtoms oc) := by
  obtain ⟨hf, hw, _, _, _, hpre⟩ := r
  have hp := h.answer_plain
  cases h with
  | jobSucceeded h1 _ h2 =>
    have e1 := markJobSuccess_evo h1 hw hpre.1
    exact (job_answer st.walker h2).mergeOK (hM.change e1.cn (markJobSuccess_tstep h1).rest.stages) (e1.keep.wf hw) h2
  | mergeFinished h1 h2 =>
    exact (merged_answer _).mergeOK (hM.mergeCompleted h1 hw hpre.1 hidx (hM0 _ rfl) hpre.2)
      ((mergeCompleted_keep h1).wf hw) (tryMergeList_single h2)
  | noJob _ hnj | handOut _ hnj _ =>
    have hp := nextJob_evo hf hw hnj
    exact (hM.change hp.2.cn hp.1.rest.stages).append (.of_no_merge _ _ fun u => nofun)
  | @busy pool retry _ => cases retry <;> exact hM.append (.of_no_merge _ _ fun u => nofun)
  | _ => exact hM.append (.of_plain _ (hp nofun))

theorem update_ok {st : State} {A : List Cmd} {m : Msg} (e : Bool) (r : MsgReady st A m) : ∃ r, update st m e = .ok r := by
  obtain ⟨hf, hw, hok, hoff, _, hpre⟩ := r
  cases m with
  | jobSucceeded u w =>
    obtain ⟨⟨s1, sh⟩, h1⟩ := markJobSuccess_ok st.stages u hw hpre.1
    obtain ⟨pool1, hgb, _⟩ := Pool.giveBack_ok st.pool w hpre.2.1
    obtain ⟨⟨s2, tm⟩, h2⟩ := tryMergeList_ok (u.stage :: sh.map (·.stage)) s1 ((markJobSuccess_tstep h1).wf hw)
    rw [update, h1]; dsimp only
    rw [hgb]; dsimp only
    rw [h2]
    exact ⟨_, rfl⟩
  | mergeFinished u =>
    obtain ⟨s1, h1⟩ := mergeCompleted_ok st.stages u hw hpre.1
    obtain ⟨⟨s2, t⟩, h2⟩ := cmdTryMerge_ok s1 u.stage ((mergeCompleted_evo h1 hw hpre.1).keep.wf hw)
    rw [update, h1]; dsimp only
    rw [h2]
    exact ⟨_, rfl⟩
  | scheduleNextJob =>
    have hav := Pool.workerAvailable_avail st.pool e
    rcases hwa : st.pool.workerAvailable e with ⟨pool, avail, retry⟩
    rw [hwa] at hav
    rw [update, hwa]; dsimp only
    cases avail with
    | false => cases retry <;> exact ⟨_, rfl⟩
    | true =>
      obtain ⟨⟨s1, res⟩, hnj⟩ := nextJob_ok st.fix hf st.stages hw hok hoff
      simp only [Bool.not_true, Bool.false_eq_true, if_false, hnj]
      cases res with
      | none => exact ⟨_, rfl⟩
      | some p =>
        obtain ⟨⟨pool2, w⟩, hb⟩ := Pool.borrow_ok pool (hav rfl)
        simp only [hb]
        exact ⟨_, rfl⟩
  | downloadSegment =>
    simp only [update]
    split
    · exact ⟨_, rfl⟩
    · split
      · exact ⟨_, rfl⟩
      · split <;> exact ⟨_, rfl⟩
  | _ => exact ⟨_, rfl⟩

theorem Upd.bagOK {A : List Cmd} (h : Upd st e m st' oc) (r : MsgReady st A m) :
    BagOK st'.stages st'.pool (A ++ optAtoms oc) := by
  obtain ⟨hf, hw, _, _, hA, hpre⟩ := r
  have hp := h.answer_plain
  cases h with
  | @jobSucceeded u w s1 shadowed pool1 s2 tm h1 hgb h2 =>
    obtain ⟨hsched, hwork, hunew, hwnew⟩ := hpre
    have t1 := markJobSuccess_tstep h1
    -- the other commands are for other units, whose cells are not Shadowed, and for other workers
    have hA1 : BagOK s1 pool1 A := hA.step t1.step
      (fun u' hu' hc => hc.2.elim
        (fun h2 => WorkUnit.ne_cell (hA.ne_unit hu' (fun _ => hunew) (by rw [hsched]; nofun)) ⟨hc.1, h2⟩)
        (fun h2 => by rcases hA.live hu' with h | h <;> rw [h] at h2 <;> cases h2))
      (fun u' sb' w' hm => Pool.giveBack_keeps hwork hgb (fun hww => hwnew (hww ▸ List.mem_filterMap.2 ⟨_, hm, rfl⟩))
        (hA.jobs u' sb' w' hm).2)
    exact (job_answer st.walker h2).bagOK hA1 (t1.wf hw) h2
  | @mergeFinished u s1 s2 t h1 h2 =>
    obtain ⟨hmerging, hunew⟩ := hpre
    have hw1 := (mergeCompleted_keep h1).wf hw
    obtain ⟨s0, hs0, rfl⟩ := mergeCompleted_eq h1
    have hA0 : BagOK s0 st.pool A := hA.step (transition_tstep hs0).step
      (fun u' hu' => WorkUnit.ne_cell (hA.ne_unit hu' (by rw [hmerging]; nofun) fun _ => hunew))
      (fun u' sb' w' hm => (hA.jobs u' sb' w' hm).2)
    exact (merged_answer t).bagOK (hA0.change (fun seg stg _ => moveForward_getState s0 _ seg stg) fun _ h => h) hw1
      (tryMergeList_single h2)
  | @busy pool retry hwa =>
    have hA1 : BagOK st.stages pool A := hA.change (fun _ _ _ => rfl) fun _ => Pool.workerAvailable_keeps hwa
    cases retry with
    | false => exact hA1.append_plain nofun
    | true => exact hA1.append_plain fun c hc => List.mem_singleton.1 hc ▸ ⟨rfl, rfl, rfl⟩
  | @noJob pool retry s1 hwa hnj =>
    exact (hA.step (nextJob_evo hf hw hnj).1 (fun _ _ => id)
      fun u sb w hm => Pool.workerAvailable_keeps hwa (hA.jobs u sb w hm).2).append_plain nofun
  | @handOut pool retry s1 u r pool2 w hwa hnj hb =>
    have hch : Chosen st.fix st.stages s1 u r := nextJob_spec hf hw hnj
    obtain ⟨hfree, hwork, hkeep⟩ := Pool.borrow_spec hb
    have hA1 : BagOK st.stages pool A := hA.change (fun _ _ _ => rfl) fun _ => Pool.workerAvailable_keeps hwa
    -- the unit was Pending and the worker free: no command in flight is for either
    have hunew : u ∉ A.filterMap Cmd.jobUnit := fun hmem => by
      obtain ⟨sb, w', hj⟩ := mem_jobUnit hmem
      have := (hA.jobs u sb w' hj).1
      rw [hch.was_pending] at this; cases this
    have hwnew : w ∉ A.filterMap Cmd.jobWorker := fun hmem => by
      obtain ⟨u', sb, hj⟩ := mem_jobWorker hmem
      have := (hA1.jobs u' sb w hj).2
      rw [hfree] at this; cases this
    have hA2 : BagOK s1 pool2 A :=
      hA1.step hch.pstep (fun _ _ => id) fun u' sb' w' hm => hkeep w' (hA1.jobs u' sb' w' hm).2
    show BagOK s1 pool2 (A ++ [Cmd.job u r.start w, Cmd.scheduleNextJob])
    rw [List.append_cons]
    exact (hA2.add_job r.start hch.scheduled hwork hunew hwnew).append_plain
      fun c hc => List.mem_singleton.1 hc ▸ ⟨rfl, rfl, rfl⟩
  | _ => exact hA.append_plain (hp nofun)

/-! ### `step` -/

theorem atoms_of_not_batch (c : Cmd) (h : ∀ l, c ≠ .batch l) : c.atoms = [c] := by
  cases c <;> simp [Cmd.atoms] at h ⊢

inductive StepKind (st : State) (idx : Nat) (e : Bool) : State → Prop
  | idle : st.ended ≠ none ∨ st.bag[idx]? = none → StepKind st idx e st
  | batch (l : List Cmd) : st.ended = none → st.bag[idx]? = some (.batch l) →
      StepKind st idx e { st with bag := st.bag.eraseIdx idx ++ l }
  | quit (c : Cmd) (b : Bool) : st.ended = none → st.bag[idx]? = some c → ((c = .shutdown ∧ b = false) ∨ c = .quit b) →
      StepKind st idx e { st with bag := st.bag.eraseIdx idx, ended := some (if b then .quitErr else .quitNil) }
  | panic (c : Cmd) (m : Msg) (st1 : State) (err : Err) : st.ended = none → st.bag[idx]? = some c →
      exec { st with bag := st.bag.eraseIdx idx } c = (st1, .msg m) → update st1 m e = .error err →
      StepKind st idx e { st1 with ended := some (.panic err) }
  | msg (c : Cmd) (m : Msg) (st1 st2 : State) (oc : Option Cmd) : st.ended = none → st.bag[idx]? = some c →
      exec { st with bag := st.bag.eraseIdx idx } c = (st1, .msg m) → update st1 m e = .ok (st2, oc) →
      StepKind st idx e { st2 with bag := st2.bag ++ oc.toList }

theorem step_kind (st : State) (idx : Nat) (e : Bool) : StepKind st idx e (step st idx e) := by
  unfold step
  split
  · rename_i hend
    exact .idle (Or.inl fun h0 => by rw [h0] at hend; cases hend)
  · rename_i hend
    have hend' : st.ended = none := by
      cases h : st.ended with
      | none => rfl
      | some x => rw [h] at hend; simp at hend
    split
    · rename_i hnone; exact .idle (Or.inr hnone)
    · rename_i c hc
      simp only
      cases hex : exec { st with bag := st.bag.eraseIdx idx } c with
      | mk st1 out =>
        cases out with
        | batch l =>
          obtain ⟨rfl, h1⟩ := exec_batch_inv { st with bag := st.bag.eraseIdx idx } c l (by rw [hex])
          rw [hex] at h1
          subst h1
          exact .batch l hend' hc
        | quit b =>
          obtain ⟨hcb, h1⟩ := exec_quit_cases { st with bag := st.bag.eraseIdx idx } c b (by rw [hex])
          rw [hex] at h1
          subst h1
          exact .quit c b hend' hc hcb
        | msg m =>
          simp only
          cases hupd : update st1 m e with
          | error err => exact .panic c m st1 err hend' hc hex hupd
          | ok r =>
            obtain ⟨st2, oc⟩ := r
            have := StepKind.msg (st := st) (idx := idx) (e := e) c m st1 st2 oc hend' hc hex hupd
            cases oc with
            | none => simpa using this
            | some c' => simpa using this

theorem exec_taken {st st1 : State} {idx : Nat} {c : Cmd} {out : Outcome}
    (hex : exec { st with bag := st.bag.eraseIdx idx } c = (st1, out)) :
    ExecFrame { st with bag := st.bag.eraseIdx idx } st1 := by
  have := exec_same { st with bag := st.bag.eraseIdx idx } c
  rw [hex] at this
  exact this

theorem batch_perm {st : State} {idx : Nat} {l : List Cmd} (hc : st.bag[idx]? = some (.batch l)) :
    st.inFlight.Perm (atomsList (st.bag.eraseIdx idx ++ l)) := by
  rw [atomsList_append]
  exact (atomsList_eraseIdx_perm st.bag idx _ hc).trans List.perm_append_comm

theorem taken_perm {st : State} {idx : Nat} {c : Cmd} (hc : st.bag[idx]? = some c) (hnb : ∀ l, c ≠ .batch l) :
    st.inFlight.Perm (c :: atomsList (st.bag.eraseIdx idx)) := by
  have := atomsList_eraseIdx_perm st.bag idx c hc
  rwa [atoms_of_not_batch c hnb] at this

theorem quit_perm {st : State} {idx : Nat} {c : Cmd} {b : Bool} (hc : st.bag[idx]? = some c)
    (hcb : (c = .shutdown ∧ b = false) ∨ c = .quit b) : st.inFlight.Perm (c :: atomsList (st.bag.eraseIdx idx)) :=
  taken_perm hc (by rcases hcb with ⟨rfl, _⟩ | rfl <;> nofun)

structure Good (st : State) : Prop where
  inv     : Inv st
  noPanic : ∀ e, st.ended ≠ some (.panic e)

theorem msg_ready {st st1 : State} {idx : Nat} {c : Cmd} {m : Msg} (hg : Good st) (hc : st.bag[idx]? = some c)
    (hex : exec { st with bag := st.bag.eraseIdx idx } c = (st1, .msg m)) :
    st.inFlight.Perm (c :: atomsList (st.bag.eraseIdx idx)) ∧ MsgReady st1 (atomsList (st.bag.eraseIdx idx)) m := by
  have hperm := taken_perm hc (by intro l hl; subst hl; cases hex)
  have fr := exec_taken hex
  have hbag : BagOK st.stages st.pool (c :: atomsList (st.bag.eraseIdx idx)) := hg.inv.bag.perm hperm
  have hpre := exec_msg_pre { st with bag := st.bag.eraseIdx idx } c (atomsList (st.bag.eraseIdx idx)) m hbag (by rw [hex])
  rw [hex] at hpre
  exact ⟨hperm, by rw [fr.fix]; exact hg.inv.fix, fr.stages.same.wf hg.inv.wf, fr.stages.same.ok hg.inv.ok,
    by rw [fr.stages.same.offset, fr.stages.same.global]; exact hg.inv.off,
    by rw [fr.pool]; exact (hbag.sublist (List.sublist_cons_self _ _)).sameMatrix fr.stages.same, hpre⟩

theorem no_panic_step {st st1 : State} {idx : Nat} {e : Bool} {c : Cmd} {m : Msg} {err : Err} (hg : Good st)
    (hc : st.bag[idx]? = some c) (hex : exec { st with bag := st.bag.eraseIdx idx } c = (st1, .msg m))
    (hupd : update st1 m e = .error err) : False := by
  obtain ⟨_, hupd'⟩ := update_ok e (msg_ready hg hc hex).2
  rw [hupd] at hupd'; cases hupd'

/-- the invariant of the reachable states: `Good`, and the merges in flight are in order; the store stages sit at the
position their `idx` says (needed to identify the stage of a finished merge) -/
structure Good2 (st : State) : Prop where
  good   : Good st
  merges : MergeOK st.stages st.inFlight
  idx    : st.stages.IdxPos

theorem MergeOK.sameButMods {s s' : Stages} {A : List Cmd} (h : MergeOK s A) (hs : SameButMods s s') : MergeOK s' A := by
  refine ⟨fun u hu => ?_, fun u hu => ?_⟩
  · rw [previousUnitComplete_congr hs.same.get u]; exact h.prev u hu
  · obtain ⟨i, hk, hui⟩ := h.next u hu
    have := hs.stageAt i
    exact ⟨i, by rw [this.2.2]; exact hk, by rw [this.1, this.2.1]; exact hui⟩

theorem SameButMods.idxPos {s s' : Stages} (hs : SameButMods s s') (h : s.IdxPos) : s'.IdxPos := by
  intro i hi hk
  have := hs.stageAt i
  rw [hs.nStages] at hi
  rw [this.2.2] at hk
  rw [this.2.1]; exact h i hi hk

theorem step_good2 (st : State) (idx : Nat) (e : Bool) (h : Good2 st) : Good2 (step st idx e) := by
  have hk := step_kind st idx e
  generalize step st idx e = s' at hk
  have hi := h.good.inv
  cases hk with
  | idle => exact h
  | batch l hend hc =>
    have hp := batch_perm hc
    exact ⟨⟨⟨hi.fix, hi.wf, hi.ok, hi.off, hi.bag.perm hp⟩, h.good.noPanic⟩, h.merges.mono fun _ hu => hp.mem_iff.2 hu, h.idx⟩
  | quit c b hend hc hcb =>
    have hp := quit_perm hc hcb
    have hsub : (atomsList (st.bag.eraseIdx idx)).Sublist (c :: atomsList (st.bag.eraseIdx idx)) := List.sublist_cons_self _ _
    exact ⟨⟨⟨hi.fix, hi.wf, hi.ok, hi.off, (hi.bag.perm hp).sublist hsub⟩, fun err hc' => by cases b <;> cases hc'⟩,
      h.merges.mono fun _ hu => hp.mem_iff.2 (hsub.subset hu), h.idx⟩
  | panic c m st1 err hend hc hex hupd => exact (no_panic_step h.good hc hex hupd).elim
  | msg c m st1 st2 oc hend hc hex hupd =>
    obtain ⟨hperm, r⟩ := msg_ready h.good hc hex
    have fr := exec_taken hex
    have hU := update_inv hupd
    have ev := hU.stagesEvo r
    obtain ⟨hfix2, _, hb2, he2, _⟩ := hU.frame
    have hfl : atomsList (st2.bag ++ oc.toList) = atomsList (st.bag.eraseIdx idx) ++ optAtoms oc := by
      rw [hb2, fr.bag, atomsList_append]; rfl
    have hM1 : MergeOK st1.stages (c :: atomsList (st.bag.eraseIdx idx)) :=
      (h.merges.mono fun _ hu => hperm.mem_iff.2 hu).sameButMods fr.stages
    -- a finished merge was the merge of its stage's next segment
    have hM0 : ∀ u0, m = .mergeFinished u0 → ∃ i, (st1.stages.stageAt i).kind = .store ∧
        u0 = ⟨(st1.stages.stageAt i).next, (st1.stages.stageAt i).idx⟩ := by
      intro u0 hm0
      subst hm0
      cases exec_answers _ c _ (by rw [hex])
      exact hM1.next u0 (List.mem_cons_self)
    have hidx1 := fr.stages.idxPos h.idx
    obtain ⟨hw2, hok2, hoff2, hidx2⟩ := ev.keep.base ⟨r.wf, r.ok, r.off, hidx1⟩
    refine ⟨⟨⟨by rw [hfix2]; exact r.fix, hw2, hok2, hoff2, ?_⟩, ?_⟩, ?_, hidx2⟩
    · show BagOK st2.stages st2.pool (atomsList (st2.bag ++ oc.toList))
      rw [hfl]; exact hU.bagOK r
    · intro err
      show st2.ended ≠ _
      rw [he2, fr.ended]; exact h.good.noPanic err
    · show MergeOK st2.stages (atomsList (st2.bag ++ oc.toList))
      rw [hfl]
      exact hU.mergeOK r (hM1.mono fun _ hu => List.mem_cons_of_mem _ hu) hidx1 hM0

/-! ### `init` -/

theorem BagOK.nil (s : Stages) (p : Pool) : BagOK s p [] :=
  ⟨nofun, List.nodup_nil, List.nodup_nil, nofun, List.nodup_nil⟩

theorem init_atoms (dl all : Option Cmd) (tm : List (Option Cmd))
    (hdl : ∀ x ∈ dl.toList, x = Cmd.downloadSegment) (hall : ∀ x ∈ all.toList, x = Cmd.allStoresCompleted)
    (htm : atomsList (tm.filterMap id) = tm.filterMap id) :
    atomsList ([dl, some Cmd.scheduleNextJob, all, mkBatch tm].filterMap id) =
      (dl.toList ++ [Cmd.scheduleNextJob] ++ all.toList) ++ tm.filterMap id := by
  have hmb : optAtoms (mkBatch tm) = tm.filterMap id := (optAtoms_mkBatch tm).trans htm
  rw [atomsList_filterMap]
  simp only [List.flatMap_cons, List.flatMap_nil, List.append_nil, hmb, optAtoms_eq_toList rfl hdl,
    optAtoms_eq_toList rfl hall, List.append_assoc]
  rfl
/-- the initial state: the stages `s` of `initStages` after the first round of `CmdTryMerge` (answers `tm`), the walker at
its first segment, and the commands in flight: `dl` is the walker's `downloadSegment`, `all` the `allStoresCompleted` of a
request whose stores are complete from the start, then the try-merge commands -/
structure InitShape (c : Cfg) (fix : Patch) (files : Files) (st : State) (s : Stages) (tm : List (Option Cmd))
    (dl all : List Cmd) : Prop where
  stages0    : initStages c files = .ok s
  merged     : tryMergeList (storeStagePositions s.stages 0) s = .ok (st.stages, tm)
  fix        : st.fix = fix
  cfg        : st.cfg = c
  pool       : st.pool = Pool.new c.workers
  ended      : st.ended = none
  storesDone : st.storesDone = false
  outDone    : st.outDone = st.walker.isNone
  walker     : ∀ w, st.walker = some w → w.working = false ∧ w.cur = w.seg.firstIndex
  dlEq       : ∀ x ∈ dl, x = Cmd.downloadSegment
  dlIn       : st.walker.isSome = true → Cmd.downloadSegment ∈ dl
  allEq      : ∀ x ∈ all, x = Cmd.allStoresCompleted ∧ s.allStoresCompleted = true
  flight     : st.inFlight = (dl ++ [Cmd.scheduleNextJob] ++ all) ++ tm.filterMap id

theorem init_shape_aux (c : Cfg) (fix : Patch) (files : Files) (s s1 : Stages) (tm : List (Option Cmd))
    (walker : Option Walker) (hs : initStages c files = .ok s)
    (htm : tryMergeList (storeStagePositions s.stages 0) s = .ok (s1, tm))
    (hwalker : ∀ w, walker = some w → w.working = false ∧ w.cur = w.seg.firstIndex) :
    InitShape c fix files
      { cfg := c, fix := fix, stages := s1, pool := Pool.new c.workers, walker := walker,
        outDone := walker.isNone, storesDone := false,
        bag := (mkBatch [if walker.isSome = true then some Cmd.downloadSegment else none, some Cmd.scheduleNextJob,
                 if s.allStoresCompleted = true then some Cmd.allStoresCompleted else none, mkBatch tm]).toList,
        files := files, ended := none }
      s tm (if walker.isSome = true then some Cmd.downloadSegment else none).toList
      (if s.allStoresCompleted = true then some Cmd.allStoresCompleted else none).toList := by
  refine ⟨hs, htm, rfl, rfl, rfl, rfl, rfl, rfl, hwalker, ite_some_toList _ _, fun hsome => ?_, fun x hx => ?_,
    (optAtoms_mkBatch _).trans (init_atoms _ _ tm (ite_some_toList _ _) (ite_some_toList _ _)
      (atomsList_of_atomic _ fun c hc => (tryMergeList_atomic _ s s1 tm htm c hc).1))⟩
  · have hsome' : walker.isSome = true := hsome
    rw [if_pos hsome']; exact List.mem_singleton.2 rfl
  · split at hx
    · rename_i hall; exact ⟨List.mem_singleton.1 hx, hall⟩
    · cases hx

theorem init_shape {c : Cfg} {fix : Patch} {files : Files} {st : State} (h : init c fix files = .ok st) :
    ∃ s tm dl all, InitShape c fix files st s tm dl all := by
  unfold init at h
  split at h
  · cases h
  · rename_i s hs
    simp only at h
    split at h
    · cases h
    · rename_i s1 tm htm
      cases h
      refine ⟨s, tm, _, _, init_shape_aux c fix files s s1 tm _ hs htm fun w hw => ?_⟩
      split at hw
      · split at hw
        · cases hw; exact ⟨rfl, rfl⟩
        · cases hw
      · cases hw

theorem init_good2 {c : Cfg} {fix : Patch} {files : Files} {st : State} (hc : c.OK) (hf : fix.shadow = true)
    (h : init c fix files = .ok st) : Good2 st := by
  obtain ⟨s, tm, dl, all, i0⟩ := init_shape h
  obtain ⟨hw, hok, hoff, hidx⟩ := initStages_base hc i0.stages0
  have htm := i0.merged
  have ev := tryMergeList_evo hw htm
  have hB : ∀ x ∈ dl ++ [Cmd.scheduleNextJob] ++ all, x.plain := by
    intro x hx
    simp only [List.mem_append, List.mem_singleton] at hx
    rcases hx with (hx | hx) | hx
    · rw [i0.dlEq x hx]; exact ⟨rfl, rfl, rfl⟩
    · subst hx; exact ⟨rfl, rfl, rfl⟩
    · rw [(i0.allEq x hx).1]; exact ⟨rfl, rfl, rfl⟩
  have hAm := (BagOK.nil s st.pool).tryMergeList hw htm
  rw [List.nil_append] at hAm
  obtain ⟨hw1, hok1, hoff1, hidx1⟩ := ev.keep.base ⟨hw, hok, hoff, hidx⟩
  refine ⟨⟨⟨i0.fix ▸ hf, hw1, hok1, hoff1, ?_⟩, fun e he => ?_⟩, ?_, hidx1⟩
  · rw [i0.flight]; exact (hAm.append_plain hB).perm List.perm_append_comm
  · rw [i0.ended] at he; cases he
  · rw [i0.flight]; exact (MergeOK.of_plain _ hB).append (tryMergeList_mergeOK _ s st.stages tm hw htm)

theorem reachable_good2 {c : Cfg} {fix : Patch} {files : Files} {st : State} (hc : c.OK) (hf : fix.shadow = true)
    (h : Reachable c fix files st) : Good2 st := by
  induction h with
  | init h0 => exact init_good2 hc hf h0
  | step idx e _ ih => exact step_good2 _ idx e ih

theorem reachable_good {c : Cfg} {fix : Patch} {files : Files} {st : State} (hc : c.OK) (hf : fix.shadow = true)
    (h : Reachable c fix files st) : Good st :=
  (reachable_good2 hc hf h).good

theorem step_mono (st : State) (idx : Nat) (e : Bool) (h : Good st) : Mono st.stages (step st idx e).stages := by
  have hk := step_kind st idx e
  generalize step st idx e = s' at hk
  cases hk with
  | idle | batch | quit => exact Mono.refl _
  | panic c m st1 err _ _ hex => exact Mono.of_eq (exec_taken hex).stages.same.get
  | msg c m st1 st2 oc _ hc hex hupd =>
    exact (Mono.of_eq (exec_taken hex).stages.same.get).trans
      ((update_inv hupd).stagesEvo (msg_ready h hc hex).2).mono

theorem runSched_mono {c : Cfg} {fix : Patch} {files : Files} {st : State} (hc : c.OK) (hf : fix.shadow = true)
    (h : Reachable c fix files st) (sched : List (Nat × Bool)) : Mono st.stages (runSched st sched).stages := by
  induction sched generalizing st with
  | nil => exact Mono.refl _
  | cons x xs ih => exact (step_mono st x.1 x.2 (reachable_good hc hf h)).trans (ih (Reachable.step x.1 x.2 h))

theorem step_fix (st : State) (idx : Nat) (e : Bool) : (step st idx e).fix = st.fix ∧ (step st idx e).cfg = st.cfg := by
  have hk := step_kind st idx e
  generalize step st idx e = s' at hk
  cases hk with
  | idle | batch | quit => exact ⟨rfl, rfl⟩
  | panic c m st1 err _ _ hex => exact ⟨(exec_taken hex).fix, (exec_taken hex).cfg⟩
  | msg c m st1 st2 oc _ _ hex hupd =>
    have hf := (update_inv hupd).frame
    exact ⟨hf.1.trans (exec_taken hex).fix, hf.2.1.trans (exec_taken hex).cfg⟩

theorem reachable_fix {c : Cfg} {fix : Patch} {files : Files} {st : State} (h : Reachable c fix files st) :
    st.fix = fix ∧ st.cfg = c := by
  induction h with
  | init h0 =>
    obtain ⟨_, _, _, _, i0⟩ := init_shape h0
    exact ⟨i0.fix, i0.cfg⟩
  | @step st0 idx e _ ih =>
    have := step_fix st0 idx e
    exact ⟨this.1.trans ih.1, this.2.trans ih.2⟩

/-! ### `handedOut` -/

theorem update_schedule_job {st st' : State} {e : Bool} {u : WorkUnit} {sb w : Nat} {rest : List Cmd}
    (h : update st .scheduleNextJob e = .ok (st', some (.batch (.job u sb w :: rest)))) :
    ∃ r, st.stages.nextJob st.fix = .ok (st'.stages, some (u, r)) := by
  generalize ho : some (Cmd.batch (.job u sb w :: rest)) = oc at h
  cases update_inv h with
  | @busy pool retry => cases retry <;> simp [mkBatch] at ho
  | noJob => cases ho
  | @handOut pool retry s1 u' r pool' w' _ hnj =>
    simp [mkBatch] at ho
    exact ⟨r, by rw [hnj, ho.1.1]⟩

theorem handedOut_step {st : State} {idx : Nat} {e : Bool} {u : WorkUnit} (h : handedOut st idx e = some u) :
    ∃ r, st.stages.nextJob st.fix = .ok ((step st idx e).stages, some (u, r)) := by
  unfold handedOut at h
  split at h
  · cases h
  · rename_i hend
    have key : ∀ (c : Cmd), st.bag[idx]? = some c → (exec { st with bag := st.bag.eraseIdx idx } c) =
        ({ st with bag := st.bag.eraseIdx idx }, .msg .scheduleNextJob) →
        (match update { st with bag := st.bag.eraseIdx idx } .scheduleNextJob e with
          | .ok (_, some (.batch (.job u _ _ :: _))) => some u
          | _ => none) = some u →
        ∃ r, st.stages.nextJob st.fix = .ok ((step st idx e).stages, some (u, r)) := by
      intro c hc hex hm
      split at hm
      · rename_i st' u' sb w rest hupd
        injection hm with hm; subst hm
        obtain ⟨r, hr⟩ := update_schedule_job hupd
        refine ⟨r, ?_⟩
        have hstep : (step st idx e).stages = st'.stages := by
          unfold step
          simp only [hend, Bool.false_eq_true, if_false, hc, hex, hupd]
        rw [hstep]; exact hr
      · cases hm
    split at h
    · rename_i hc; exact key _ hc rfl h
    · rename_i hc; exact key _ hc rfl h
    · cases h

theorem handedOut_deps {st : State} {idx : Nat} {e : Bool} {u : WorkUnit} (hg : Good st) (hd : st.fix.deps = true)
    (h : handedOut st idx e = some u) :
    (step st idx e).stages.getState u.seg u.stage = .scheduled ∧
    ∀ i, i < u.stage → (st.stages.stageAt i).seg.firstIndex ≤ u.seg →
      ((st.stages.stageAt i).seg.firstIndex < u.seg → (step st idx e).stages.previousUnitComplete ⟨u.seg, i⟩ = true) ∧
      ((step st idx e).stages.getState u.seg i = .completed ∨ (step st idx e).stages.getState u.seg i = .noOp ∨
       (step st idx e).stages.getState u.seg i = .shadowed ∨ (step st idx e).stages.getState u.seg i = .partialPresent) := by
  obtain ⟨r, hnj⟩ := handedOut_step h
  have hch : Chosen st.fix st.stages (step st idx e).stages u r :=
    nextJob_spec hg.inv.fix hg.inv.wf hnj
  refine ⟨hch.scheduled, ?_⟩
  obtain ⟨s0, hp0, _, hpu, hdeps, hs'⟩ := hch.at_choice hd
  intro i hi hfi
  unfold dependenciesCompleted at hdeps
  simp only [hd, if_true] at hdeps
  split at hdeps
  · omega
  · have hst0 : s0.stageAt i = st.stages.stageAt i := hp0.rest.stageAt i
    rcases depsLoopFix_spec s0 u.seg u.stage hdeps i hi with hb | ⟨hprev, hst⟩
    · rw [hst0] at hb; omega
    · have tr := transition_tstep hs'
      constructor
      · intro hlt
        have hp := hprev (by rw [hst0]; exact hlt)
        -- the previous segment's cell is not the one that was scheduled
        have hcn : StableCN s0 (step st idx e).stages := StableCN.of_step tr.step (by
          intro seg stg hT
          rw [hT.1, hT.2, hpu]; simp)
        exact previousUnitComplete_stable hcn ⟨u.seg, i⟩ hp
      · have hne : ¬(u.seg = u.seg ∧ i = u.stage) := by intro hc; omega
        rcases tr.frame u.seg i hne with e1 | ⟨e1, _⟩
        · rw [e1]; exact hst
        · rw [e1] at hst; simp at hst

theorem step_merge_completes {st : State} {idx : Nat} {e : Bool} {u : WorkUnit} (hg : Good st) (hend : st.ended = none)
    (hc : st.bag[idx]? = some (.merge u)) (hrun : (runMerge st.stages u st.files).isSome) :
    (step st idx e).stages.getState u.seg u.stage = .completed := by
  have hperm := atomsList_eraseIdx_perm st.bag idx _ hc
  have hmerging : st.stages.getState u.seg u.stage = .merging :=
    (hg.inv.bag.perm hperm).merges u (by simp [Cmd.atoms])
  cases hr : runMerge st.stages u st.files with
  | none => rw [hr] at hrun; cases hrun
  | some p =>
    obtain ⟨s', f'⟩ := p
    have hsm := (runMerge_sameButMods hr).same
    unfold step
    have hnot : st.ended.isSome = false := by rw [hend]; rfl
    simp only [hnot, Bool.false_eq_true, if_false, hc]
    have hex : exec { st with bag := st.bag.eraseIdx idx } (.merge u) =
        ({ st with bag := st.bag.eraseIdx idx, stages := s', files := f' }, .msg (.mergeFinished u)) := by
      simp only [exec, hr]
    rw [hex]
    simp only
    have hm1 : s'.getState u.seg u.stage = .merging := by rw [hsm.get]; exact hmerging
    have hw1 : s'.WF := hsm.wf hg.inv.wf
    obtain ⟨s1, h1⟩ := mergeCompleted_ok s' u hw1 hm1
    obtain ⟨s0, t0, hw0, hget, _, _, _, hw1', _, hcompl⟩ := mergeCompleted_spec h1 hw1
    obtain ⟨⟨s2, t⟩, h2⟩ := cmdTryMerge_ok s1 u.stage hw1'
    have hupd : update { st with bag := st.bag.eraseIdx idx, stages := s', files := f' } (.mergeFinished u) e =
        .ok ({ st with bag := st.bag.eraseIdx idx, stages := s2, files := f' }, mkBatch [some .scheduleNextJob, tryMergeCmd t]) := by
      simp only [update, h1, h2]
    rw [hupd]
    have hc1 : s1.getState u.seg u.stage = .completed := hcompl hm1
    have hc2 : s2.getState u.seg u.stage = .completed := by
      rw [tryMergeList_stableCN hw1' (tryMergeList_single h2) u.seg u.stage (Or.inl hc1)]; exact hc1
    cases hmk : mkBatch [some Cmd.scheduleNextJob, tryMergeCmd t] with
    | none => exact hc2
    | some c' => exact hc2

/-- what the invariants `LiveF`, `LiveW` and the termination measure use of a step that delivers a message -/
structure MsgStep (st : State) (idx : Nat) (e : Bool) (c : Cmd) (m : Msg) (st1 st2 : State) (oc : Option Cmd) : Prop where
  perm    : st.inFlight.Perm (c :: atomsList (st.bag.eraseIdx idx))
  ans     : Answers c m
  walker1 : st1.walker = st.walker
  out1    : st1.outDone = st.outDone
  stores1 : st1.storesDone = st.storesDone
  ended1  : st1.ended = st.ended
  same1   : SameMatrix st.stages st1.stages
  kinds1  : st1.stages.stages.map (·.kind) = st.stages.stages.map (·.kind)
  sseg1   : st1.stages.storeSeg = st.stages.storeSeg
  idx1    : st1.stages.outIsIndex = st.stages.outIsIndex
  evo     : Evo st1 st2 m
  ctrl    : CtrlAtoms st1 st2 m oc
  cn      : StableCN st1.stages st2.stages
  kinds2  : st2.stages.stages.map (·.kind) = st1.stages.stages.map (·.kind)
  sseg2   : st2.stages.storeSeg = st1.stages.storeSeg
  flight  : ({ st2 with bag := st2.bag ++ oc.toList } : State).inFlight = atomsList (st.bag.eraseIdx idx) ++ optAtoms oc
  outs    : ∀ a b, st.files.hasOutput a b = true → st2.files.hasOutput a b = true

theorem msgStep_of (st : State) (idx : Nat) (e : Bool) (c : Cmd) (m : Msg) (st1 st2 : State) (oc : Option Cmd)
    (hg : Good st) (hc : st.bag[idx]? = some c)
    (hex : exec { st with bag := st.bag.eraseIdx idx } c = (st1, .msg m)) (hupd : update st1 m e = .ok (st2, oc)) :
    MsgStep st idx e c m st1 st2 oc := by
  obtain ⟨hperm, r⟩ := msg_ready hg hc hex
  have fr := exec_taken hex
  have hU := update_inv hupd
  have ev := hU.stagesEvo r
  have hevo := hU.evo r
  refine ⟨hperm, exec_answers _ c m (by rw [hex]), fr.walker, fr.outDone, fr.storesDone, fr.ended, fr.stages.same, fr.stages.kinds, fr.stages.sseg, fr.stages.index, hevo,
    hU.ctrl r.wf, ev.cn, ev.kinds, ev.sseg, ?_, ?_⟩
  · show atomsList (st2.bag ++ oc.toList) = _
    rw [hU.frame.2.2.1, fr.bag, atomsList_append]; rfl
  · intro a b hab
    rw [hevo.files]
    have := exec_outputs { st with bag := st.bag.eraseIdx idx } c a b hab
    rw [hex] at this; exact this

namespace MsgStep
variable {st st1 st2 : State} {idx : Nat} {e : Bool} {c : Cmd} {m : Msg} {oc : Option Cmd}
  (ms : MsgStep st idx e c m st1 st2 oc)
include ms

theorem cmd_mem : c ∈ st.inFlight := ms.perm.mem_iff.2 List.mem_cons_self

theorem sub {x : Cmd} (hx : x ∈ atomsList (st.bag.eraseIdx idx)) : x ∈ st.inFlight :=
  ms.perm.mem_iff.2 (List.mem_cons_of_mem _ hx)

theorem rest {x : Cmd} (hx : x ∈ st.inFlight) (hne : x ≠ c) : x ∈ atomsList (st.bag.eraseIdx idx) :=
  (List.mem_cons.1 (ms.perm.mem_iff.1 hx)).resolve_left hne

theorem mem_flight {x : Cmd} : x ∈ ({ st2 with bag := st2.bag ++ oc.toList } : State).inFlight ↔
    x ∈ atomsList (st.bag.eraseIdx idx) ∨ x ∈ optAtoms oc := by
  rw [ms.flight]; exact List.mem_append

theorem outDone2 : st2.outDone = (st.outDone || m == .walkerCompleted) := by rw [ms.evo.outDone, ms.out1]

theorem storesDone2 : st2.storesDone = (st.storesDone || m == .allStoresCompleted) := by
  rw [ms.evo.storesDone, ms.stores1]

theorem walker2 : st2.walker = match m with
    | .fileNotPresent => st.walker.map fun w => { w with working := false }
    | .fileDownloaded => st.walker.map fun w => { w with cur := w.cur + 1, working := false }
    | .downloadSegment => st.walker.map fun w => if w.working then w else { w with working := true }
    | _ => st.walker := by
  rw [ms.evo.walker, ms.walker1]
  cases m <;> rfl

theorem outDone_cases (h : st2.outDone = true) : st.outDone = true ∨ m = .walkerCompleted := by
  rw [ms.outDone2, Bool.or_eq_true, beq_iff_eq] at h
  exact h

theorem storesDone_cases (h : st2.storesDone = true) :
    st.storesDone = true ∨ (m = .allStoresCompleted ∧ c = .allStoresCompleted) := by
  rw [ms.storesDone2, Bool.or_eq_true, beq_iff_eq] at h
  exact h.imp_right fun hm => ⟨hm, by subst hm; cases ms.ans; rfl⟩

end MsgStep

/-- the two final flags, the shutdown command, the all-stores-completed signal -/
structure LiveF (st : State) : Prop where
  both   : st.outDone = true → st.storesDone = true → st.ended = none →
    (st.walker.isSome = true ∨ st.stages.outIsIndex = false) → Cmd.shutdown ∈ st.inFlight
  shut   : Cmd.shutdown ∈ st.inFlight → st.outDone = true ∧ st.storesDone = true
  quitF  : Cmd.quit false ∉ st.inFlight
  allA   : (Cmd.allStoresCompleted ∈ st.inFlight ∨ st.storesDone = true) → st.stages.allStoresCompleted = true
  endNil : st.ended = some .quitNil → st.outDone = true ∧ st.storesDone = true ∧ st.stages.allStoresCompleted = true

theorem walker_isSome_evo {st st' : State} {m : Msg} (h : Evo st st' m) : st'.walker.isSome = st.walker.isSome := by
  rw [h.walker]
  cases m <;> simp

theorem liveF_msg {st st1 st2 : State} {idx : Nat} {e : Bool} {c : Cmd} {m : Msg} {oc : Option Cmd}
    (ms : MsgStep st idx e c m st1 st2 oc) (hend : st.ended = none) (h : LiveF st) :
    LiveF { st2 with bag := st2.bag ++ oc.toList } := by
  have hall_mono : st.stages.allStoresCompleted = true → st2.stages.allStoresCompleted = true :=
    allStoresCompleted_mono (StableCN.trans (fun seg stg _ => ms.same1.get seg stg) ms.cn) (ms.kinds2.trans ms.kinds1)
      (ms.sseg2.trans ms.sseg1)
  refine ⟨fun ho hs _ hcond => ?_, fun hq => ?_, fun hq => ?_, fun ha => ?_, fun hq => ?_⟩
  · have ho' : st2.outDone = true := ho
    have hs' : st2.storesDone = true := hs
    have hcond' : st2.walker.isSome = true ∨ st2.stages.outIsIndex = false := hcond
    rcases ms.outDone_cases ho' with ho1 | hm
    · rcases ms.storesDone_cases hs' with hs1 | hm
      · -- both flags were set before: the shutdown command is already in flight
        have hq := h.both ho1 hs1 hend (hcond'.imp (fun hw => by rwa [walker_isSome_evo ms.evo, ms.walker1] at hw)
          fun hi => by rwa [ms.evo.outIsIndex, ms.idx1] at hi)
        exact ms.mem_flight.2 (Or.inl (ms.rest hq fun hcq => by subst hcq; cases ms.ans))
      · exact ms.mem_flight.2 (Or.inr (ms.ctrl.shutOut (Or.inl hm.1) ho' hs' hcond'))
    · exact ms.mem_flight.2 (Or.inr (ms.ctrl.shutOut (Or.inr hm) ho' hs' hcond'))
  · show st2.outDone = true ∧ st2.storesDone = true
    rcases ms.mem_flight.1 hq with hq' | hq'
    · have := h.shut (ms.sub hq')
      rw [ms.outDone2, ms.storesDone2, this.1, this.2]; simp
    · exact ms.ctrl.shutIn hq'
  · exact (ms.mem_flight.1 hq).elim (fun hq' => h.quitF (ms.sub hq')) ms.ctrl.quitF
  · show st2.stages.allStoresCompleted = true
    rcases ha with ha | ha
    · exact (ms.mem_flight.1 ha).elim (fun ha' => hall_mono (h.allA (Or.inl (ms.sub ha')))) ms.ctrl.allIn
    · rcases ms.storesDone_cases ha with hold | ⟨_, rfl⟩
      · exact hall_mono (h.allA (Or.inr hold))
      · exact hall_mono (h.allA (Or.inl ms.cmd_mem))
  · have : st2.ended = some .quitNil := hq
    rw [ms.evo.ended, ms.ended1, hend] at this; cases this

theorem step_liveF (st : State) (idx : Nat) (e : Bool) (hg : Good st) (h : LiveF st) : LiveF (step st idx e) := by
  have hk := step_kind st idx e
  generalize step st idx e = s' at hk
  cases hk with
  | idle => exact h
  | batch l hend hc =>
    have hfl := (batch_perm hc).symm
    exact ⟨fun h1 h2 h3 h4 => hfl.mem_iff.2 (h.both h1 h2 h3 h4), fun hq => h.shut (hfl.mem_iff.1 hq),
      fun hq => h.quitF (hfl.mem_iff.1 hq),
      fun ha => h.allA (ha.elim (fun x => Or.inl (hfl.mem_iff.1 x)) Or.inr), h.endNil⟩
  | quit c b hend hc hcb =>
    have hperm := quit_perm hc hcb
    have hsub : ∀ x, x ∈ atomsList (st.bag.eraseIdx idx) → x ∈ st.inFlight :=
      fun x hx => hperm.mem_iff.2 (List.mem_cons_of_mem _ hx)
    refine ⟨fun _ _ he _ => (by cases he), fun hq => h.shut (hsub _ hq), fun hq => h.quitF (hsub _ hq),
      fun ha => h.allA (Or.imp (hsub _) id ha), fun hq => ?_⟩
    -- only `shutdown` ends the loop with `quitNil`, and it is in flight only when both flags are set
    cases b with
    | true => cases hq
    | false =>
      have hcq : c = .shutdown := by
        rcases hcb with ⟨hc1, _⟩ | hc1
        · exact hc1
        · subst hc1; exact absurd (hperm.mem_iff.2 List.mem_cons_self) h.quitF
      subst hcq
      have hfl := h.shut (hperm.mem_iff.2 List.mem_cons_self)
      exact ⟨hfl.1, hfl.2, h.allA (Or.inr hfl.2)⟩
  | panic c m st1 err hend hc hex hupd => exact (no_panic_step hg hc hex hupd).elim
  | msg c m st1 st2 oc hend hc hex hupd => exact liveF_msg (msgStep_of st idx e c m st1 st2 oc hg hc hex hupd) hend h

theorem init_liveF {c : Cfg} {fix : Patch} {files : Files} {st : State} (hc : c.OK)
    (h : init c fix files = .ok st) : LiveF st := by
  obtain ⟨s, tm, dl, all, i0⟩ := init_shape h
  have hw := (initStages_base hc i0.stages0).1
  have hctrl := tryMergeList_ctrl _ s st.stages tm hw i0.merged
  have t := tryMergeList_tstep hw i0.merged
  have key : ∀ x ∈ st.inFlight,
      x ≠ Cmd.shutdown ∧ x ≠ Cmd.quit false ∧ (x = Cmd.allStoresCompleted → st.stages.allStoresCompleted = true) := by
    intro x hx
    rw [i0.flight] at hx
    simp only [List.mem_append, List.mem_singleton] at hx
    rcases hx with ((hx | hx) | hx) | hx
    · rw [i0.dlEq x hx]; exact ⟨nofun, nofun, nofun⟩
    · subst hx; exact ⟨nofun, nofun, nofun⟩
    · rw [(i0.allEq x hx).1]
      exact ⟨nofun, nofun, fun _ =>
        allStoresCompleted_mono (tryMergeList_stableCN hw i0.merged) (by rw [t.rest.stages]) t.rest.storeSeg (i0.allEq x hx).2⟩
    · rcases (hctrl x hx).1 with rfl | ⟨u, rfl⟩ | ⟨u, rfl⟩
      · exact ⟨nofun, nofun, fun _ => (hctrl _ hx).2 rfl⟩
      · exact ⟨nofun, nofun, nofun⟩
      · exact ⟨nofun, nofun, nofun⟩
  refine ⟨fun _ hs' => ?_, fun hq => absurd rfl (key _ hq).1, fun hq => absurd rfl (key _ hq).2.1, fun ha => ?_, fun he => ?_⟩
  · rw [i0.storesDone] at hs'; cases hs'
  · rcases ha with ha | ha
    · exact (key _ ha).2.2 rfl
    · rw [i0.storesDone] at ha; cases ha
  · rw [i0.ended] at he; cases he

theorem reachable_liveF {c : Cfg} {fix : Patch} {files : Files} {st : State} (hc : c.OK) (hf : fix.shadow = true)
    (h : Reachable c fix files st) : LiveF st := by
  induction h with
  | init h0 => exact init_liveF hc h0
  | @step st0 idx e hr ih => exact step_liveF st0 idx e (reachable_good hc hf hr) ih

/-- the walker and the commands in flight for it -/
structure LiveW (st : State) : Prop where
  noWalker : st.walker = none → st.outDone = true
  walkA : ∀ w, st.walker = some w → st.outDone = false → w.working = true →
    (∃ seg, Cmd.downloadCurrent seg ∈ st.inFlight) ∨ Cmd.walkerCompleted ∈ st.inFlight
  walkB : ∀ w, st.walker = some w → st.outDone = false → w.working = false → Cmd.downloadSegment ∈ st.inFlight
  dlCur : ∀ seg, Cmd.downloadCurrent seg ∈ st.inFlight →
    ∃ w, st.walker = some w ∧ w.working = true ∧ seg = w.cur ∧ w.isDone = false
  dlOne : (st.inFlight.filter Cmd.isDlCur).length ≤ 1
  wc : Cmd.walkerCompleted ∈ st.inFlight → ∃ w, st.walker = some w ∧ w.working = true ∧ w.isDone = true
  doneW : st.outDone = true → ∀ w, st.walker = some w → w.isDone = true
  outs : ∀ w, st.walker = some w → ∀ i, w.seg.firstIndex ≤ i → i < w.cur →
    ∃ r, w.seg.range? i = some r ∧ st.files.hasOutput r.start r.stop = true

theorem filter_len_perm_cons {F A : List Cmd} {c : Cmd} (p : Cmd → Bool) (hp : F.Perm (c :: A)) :
    (A.filter p).length ≤ (F.filter p).length ∧ (p c = true → (A.filter p).length + 1 = (F.filter p).length) := by
  rw [(hp.filter p).length_eq, List.filter_cons]
  split
  · rename_i hpc; simp
  · rename_i hpc; exact ⟨Nat.le_refl _, fun h => absurd h hpc⟩

theorem LiveW.idle {st : State} (h : LiveW st) {w : Walker} (hw : st.walker = some w) (hnw : w.working = false) :
    (∀ seg, Cmd.downloadCurrent seg ∉ st.inFlight) ∧ Cmd.walkerCompleted ∉ st.inFlight := by
  have busy : ∀ {w' : Walker}, st.walker = some w' → w'.working = true → False := fun hw' hwk' => by
    rw [hw] at hw'; cases hw'; rw [hnw] at hwk'; cases hwk'
  exact ⟨fun seg hs => let ⟨_, hw', hwk', _⟩ := h.dlCur seg hs; busy hw' hwk',
    fun hs => let ⟨_, hw', hwk', _⟩ := h.wc hs; busy hw' hwk'⟩

namespace MsgStep
variable {st st1 st2 : State} {idx : Nat} {e : Bool} {c : Cmd} {m : Msg} {oc : Option Cmd}
  (ms : MsgStep st idx e c m st1 st2 oc)
include ms

theorem outs_keep (h : LiveW st) {w : Walker} (hw : st.walker = some w) {i : Nat}
    (h1 : w.seg.firstIndex ≤ i) (h2 : i < w.cur) :
    ∃ r, w.seg.range? i = some r ∧ st2.files.hasOutput r.start r.stop = true := by
  obtain ⟨r, hr, hf⟩ := h.outs w hw i h1 h2
  exact ⟨r, hr, ms.outs _ _ hf⟩

/-- a download or the completion signal is the answer to `downloadSegment` only, for an idle walker -/
theorem noWalkerCmd (hm : m ≠ .downloadSegment ∨ ∀ w, st.walker = some w → w.working = true) :
    (∀ seg, Cmd.downloadCurrent seg ∉ optAtoms oc) ∧ Cmd.walkerCompleted ∉ optAtoms oc := by
  have idle : ∀ {P : Walker → Prop}, (m = .downloadSegment ∧ ∃ w, st1.walker = some w ∧ w.working = false ∧ P w) → False := by
    rintro _ ⟨hm', w, hw, hnw, _⟩
    rcases hm with hm | hbusy
    · exact hm hm'
    · rw [ms.walker1] at hw; rw [hbusy w hw] at hnw; cases hnw
  exact ⟨fun seg hs => idle (ms.ctrl.curIn seg hs), fun hs => idle (ms.ctrl.wcIn hs)⟩

/-- the walker's commands that stay in flight fit a walker that has not changed -/
theorem walkerCmds_keep (h : LiveW st) (hw2 : st2.walker = st.walker)
    (noDl : ∀ seg, Cmd.downloadCurrent seg ∉ optAtoms oc) (noWc : Cmd.walkerCompleted ∉ optAtoms oc) :
    (∀ seg, Cmd.downloadCurrent seg ∈ ({ st2 with bag := st2.bag ++ oc.toList } : State).inFlight →
      ∃ w, st2.walker = some w ∧ w.working = true ∧ seg = w.cur ∧ w.isDone = false) ∧
    (Cmd.walkerCompleted ∈ ({ st2 with bag := st2.bag ++ oc.toList } : State).inFlight →
      ∃ w, st2.walker = some w ∧ w.working = true ∧ w.isDone = true) := by
  constructor
  · intro seg hs
    obtain ⟨w, hw, rest⟩ := h.dlCur seg (ms.sub ((ms.mem_flight.1 hs).resolve_right (noDl seg)))
    exact ⟨w, hw2.trans hw, rest⟩
  · intro hs
    obtain ⟨w, hw, rest⟩ := h.wc (ms.sub ((ms.mem_flight.1 hs).resolve_right noWc))
    exact ⟨w, hw2.trans hw, rest⟩

/-- a new download is issued only for a walker that is not working, which has none in flight -/
theorem dlOne (h : LiveW st) :
    (({ st2 with bag := st2.bag ++ oc.toList } : State).inFlight.filter Cmd.isDlCur).length ≤ 1 := by
  have hcount := filter_len_perm_cons Cmd.isDlCur ms.perm
  rw [ms.flight, List.filter_append, List.length_append]
  by_cases hO : ∀ seg, Cmd.downloadCurrent seg ∉ optAtoms oc
  · have := filter_dlCur_nil.2 hO
    have := hcount.1
    have := h.dlOne
    omega
  · obtain ⟨seg, hs⟩ := Classical.not_forall_not.1 hO
    obtain ⟨_, w, hw, hnw, _⟩ := ms.ctrl.curIn seg hs
    have := filter_dlCur_nil.2 fun s' hs' => (h.idle (ms.walker1 ▸ hw) hnw).1 s' (ms.sub hs')
    have := ms.ctrl.curCount
    omega

theorem liveW_same (h : LiveW st) :
    st2.walker = st.walker → st2.outDone = st.outDone → (∀ seg, c ≠ .downloadCurrent seg) →
    c ≠ .walkerCompleted → (∀ w, st.walker = some w → w.working = false → c ≠ .downloadSegment) →
    (∀ seg, Cmd.downloadCurrent seg ∉ optAtoms oc) → Cmd.walkerCompleted ∉ optAtoms oc →
    LiveW { st2 with bag := st2.bag ++ oc.toList } := by
  intro hw2 ho2 hc1 hc2 hc3 noDl noWc
  obtain ⟨hdl, hwc⟩ := ms.walkerCmds_keep h hw2 noDl noWc
  refine ⟨fun hwn => ho2.trans (h.noWalker (hw2.symm.trans hwn)), ?_, ?_, hdl, ms.dlOne h, hwc,
    fun ho w hw => h.doneW (ho2.symm.trans ho) w (hw2.symm.trans hw),
    fun w hw i h1 h2 => ms.outs_keep h (hw2.symm.trans hw) h1 h2⟩
  · intro w hw ho hwk
    rcases h.walkA w (hw2.symm.trans hw) (ho2.symm.trans ho) hwk with ⟨seg, hs⟩ | hs
    · exact Or.inl ⟨seg, ms.mem_flight.2 (Or.inl (ms.rest hs (fun hcc => hc1 seg hcc.symm)))⟩
    · exact Or.inr (ms.mem_flight.2 (Or.inl (ms.rest hs (fun hcc => hc2 hcc.symm))))
  · intro w hw ho hwk
    have hw' := hw2.symm.trans hw
    exact ms.mem_flight.2 (Or.inl (ms.rest (h.walkB w hw' (ho2.symm.trans ho) hwk) (fun hcc => hc3 w hw' hwk hcc.symm)))

theorem liveW_answered (h : LiveW st) :
    ∀ seg, c = .downloadCurrent seg → (m = .fileNotPresent ∨ m = .fileDownloaded) →
    ∀ w0, st.walker = some w0 → w0.isDone = false → ∀ w2, st2.walker = some w2 → w2.working = false →
    (∀ i, w2.seg.firstIndex ≤ i → i < w2.cur → ∃ r, w2.seg.range? i = some r ∧ st2.files.hasOutput r.start r.stop = true) →
    LiveW { st2 with bag := st2.bag ++ oc.toList } := by
  have hcount := filter_len_perm_cons Cmd.isDlCur ms.perm
  intro seg hcs hm w0 hwk hnd w2 hw2 hnw2 houts
  have ho2 : st2.outDone = st.outDone := by
    rw [ms.outDone2]; rcases hm with rfl | rfl <;> simp
  have noDlOld : ∀ s', Cmd.downloadCurrent s' ∉ atomsList (st.bag.eraseIdx idx) := by
    apply filter_dlCur_nil.1
    have := hcount.2 (by rw [hcs]; rfl)
    have h1 := h.dlOne
    omega
  have noWcOld : Cmd.walkerCompleted ∉ atomsList (st.bag.eraseIdx idx) := by
    intro hs
    obtain ⟨w, hw, _, hd⟩ := h.wc (ms.sub hs)
    rw [hwk] at hw; cases hw
    rw [hnd] at hd; cases hd
  obtain ⟨noDl, noWc⟩ := ms.noWalkerCmd (.inl (by rcases hm with rfl | rfl <;> nofun))
  refine ⟨fun hn => (by rw [hw2] at hn; cases hn), ?_, fun _ _ _ _ => ms.mem_flight.2 (Or.inr (ms.ctrl.dlOut hm)), ?_, ms.dlOne h,
    ?_, ?_, ?_⟩
  · intro w hw _ hwk'
    rw [hw2] at hw; cases hw
    rw [hnw2] at hwk'; cases hwk'
  · intro s' hs
    rcases ms.mem_flight.1 hs with hs | hs
    · exact absurd hs (noDlOld s')
    · exact absurd hs (noDl s')
  · intro hs
    rcases ms.mem_flight.1 hs with hs | hs
    · exact absurd hs noWcOld
    · exact absurd hs noWc
  · intro ho w hw
    have := h.doneW (ho2.symm.trans ho) w0 hwk
    rw [hnd] at this; cases this
  · intro w hw
    rw [hw2] at hw; cases hw
    exact houts

end MsgStep

/-- `downloadSegment` reaches an idle walker: it starts to work, and a download or the completion signal is issued -/
theorem MsgStep.liveW_started {st st1 st2 : State} {idx : Nat} {e : Bool} {c : Cmd} {oc : Option Cmd}
    (ms : MsgStep st idx e c .downloadSegment st1 st2 oc) (h : LiveW st) {w0 : Walker} (hwk : st.walker = some w0)
    (hworking : w0.working = false) : LiveW { st2 with bag := st2.bag ++ oc.toList } := by
  have ho2 : st2.outDone = st.outDone := by rw [ms.outDone2]; simp
  have hw2 : st2.walker = some { w0 with working := true } := by rw [ms.walker2, hwk]; simp [hworking]
  have hw1 : st1.walker = some w0 := ms.walker1.trans hwk
  have hcur := ms.ctrl.curOut rfl w0 hw1 hworking
  obtain ⟨noDlOld, noWcOld⟩ := h.idle hwk hworking
  refine ⟨(fun hn => by rw [hw2] at hn; cases hn), fun w hw _ _ => ?_, fun w hw _ hnw => ?_, fun seg hs => ?_, ms.dlOne h,
    fun hs => ?_, fun ho w hw => ?_, fun w hw i h1 h2 => ?_⟩
  · cases hd : w0.isDone with
    | true => exact Or.inr (ms.mem_flight.2 (Or.inr (hcur.1 hd)))
    | false => exact Or.inl ⟨w0.cur, ms.mem_flight.2 (Or.inr (hcur.2 hd))⟩
  · rw [hw2] at hw; cases hw
    cases hnw
  · obtain ⟨_, w, hw, _, hnd, hseg⟩ := ms.ctrl.curIn seg ((ms.mem_flight.1 hs).resolve_left fun hs => noDlOld seg (ms.sub hs))
    rw [hw1] at hw; cases hw
    exact ⟨_, hw2, rfl, hseg, hnd⟩
  · obtain ⟨_, w, hw, _, hd⟩ := ms.ctrl.wcIn ((ms.mem_flight.1 hs).resolve_left fun hs => noWcOld (ms.sub hs))
    rw [hw1] at hw; cases hw
    exact ⟨_, hw2, rfl, hd⟩
  · rw [hw2] at hw; cases hw
    exact h.doneW (ho2.symm.trans ho) w0 hwk
  · rw [hw2] at hw; cases hw
    exact ms.outs_keep h hwk h1 h2

theorem liveW_msg {st st1 st2 : State} {idx : Nat} {e : Bool} {c : Cmd} {m : Msg} {oc : Option Cmd}
    (ms : MsgStep st idx e c m st1 st2 oc) (hex : exec { st with bag := st.bag.eraseIdx idx } c = (st1, .msg m))
    (h : LiveW st) : LiveW { st2 with bag := st2.bag ++ oc.toList } := by
  cases hans : ms.ans with
  | sched | tick | all | notReady | merged | mergeFailed | job =>
    obtain ⟨noDl, noWc⟩ := ms.noWalkerCmd (.inl nofun)
    exact ms.liveW_same h ms.walker2 (by rw [ms.outDone2]; exact Bool.or_false _) nofun nofun (fun _ _ _ => nofun) noDl noWc
  | wc =>
    -- the walker is done: outputStreamCompleted is set
    have hw2 : st2.walker = st.walker := ms.walker2
    have ho2 : st2.outDone = true := by rw [ms.outDone2]; simp
    obtain ⟨w0, hw0, hwk0, hdone0⟩ := h.wc ms.cmd_mem
    obtain ⟨noDl, noWc⟩ := ms.noWalkerCmd (.inl nofun)
    obtain ⟨hdl, hwc⟩ := ms.walkerCmds_keep h hw2 noDl noWc
    refine ⟨fun _ => ho2, fun w _ ho => (by rw [ho2] at ho; cases ho), fun w _ ho => (by rw [ho2] at ho; cases ho), hdl,
      ms.dlOne h, hwc, fun _ w hw => ?_, fun w hw i h1 h2 => ms.outs_keep h (hw2.symm.trans hw) h1 h2⟩
    have hw' : st.walker = some w := hw2.symm.trans hw
    rw [hw0] at hw'; cases hw'; exact hdone0
  | dl =>
    by_cases hidle : ∃ w0, st.walker = some w0 ∧ w0.working = false
    · obtain ⟨w0, hwk, hworking⟩ := hidle
      exact ms.liveW_started h hwk hworking
    · -- the message is dropped
      have hbusy : ∀ w, st.walker = some w → w.working = true := fun w hw => by
        cases hwk : w.working
        · exact absurd ⟨w, hw, hwk⟩ hidle
        · rfl
      obtain ⟨noDl, noWc⟩ := ms.noWalkerCmd (.inr hbusy)
      refine ms.liveW_same h ?_ (by rw [ms.outDone2]; simp) nofun nofun
        (fun w hw hnw => by rw [hbusy w hw] at hnw; cases hnw) noDl noWc
      rw [ms.walker2]
      cases hwk : st.walker with
      | none => rfl
      | some w => simp [hbusy w hwk]
  | absent seg =>
    obtain ⟨w0, hwk, _, _, hnd⟩ := h.dlCur seg ms.cmd_mem
    exact ms.liveW_answered h seg rfl (Or.inl rfl) w0 hwk hnd { w0 with working := false }
      (by rw [ms.walker2, hwk]; rfl) rfl fun i h1 h2 => ms.outs_keep h hwk h1 h2
  | present seg =>
    obtain ⟨w0, hwk, _, hseg, hnd⟩ := h.dlCur seg ms.cmd_mem
    refine ms.liveW_answered h seg rfl (Or.inr rfl) w0 hwk hnd { w0 with cur := w0.cur + 1, working := false }
      (by rw [ms.walker2, hwk]; rfl) rfl fun i h1 h2 => ?_
    by_cases hi : i < w0.cur
    · exact ms.outs_keep h hwk h1 hi
    · -- the file that was downloaded exists
      obtain ⟨w', r, hw', hr, hf⟩ := exec_present { st with bag := st.bag.eraseIdx idx } seg (by rw [hex])
      have hw'' : st.walker = some w' := hw'
      rw [hwk] at hw''; cases hw''
      have hic : i = w0.cur := by have : i < w0.cur + 1 := h2; omega
      rw [hic, ← hseg]
      exact ⟨r, hr, ms.outs _ _ hf⟩

theorem step_liveW (st : State) (idx : Nat) (e : Bool) (hg : Good st) (h : LiveW st) : LiveW (step st idx e) := by
  have hk := step_kind st idx e
  generalize step st idx e = s' at hk
  cases hk with
  | idle => exact h
  | batch l hend hc =>
    have hfl := (batch_perm hc).symm
    refine ⟨h.noWalker, ?_, ?_, ?_, ?_, ?_, h.doneW, h.outs⟩
    · intro w hw ho hwk
      rcases h.walkA w hw ho hwk with ⟨seg, hs⟩ | hs
      · exact Or.inl ⟨seg, hfl.mem_iff.2 hs⟩
      · exact Or.inr (hfl.mem_iff.2 hs)
    · intro w hw ho hwk; exact hfl.mem_iff.2 (h.walkB w hw ho hwk)
    · intro seg hs; exact h.dlCur seg (hfl.mem_iff.1 hs)
    · exact (hfl.filter _).length_eq ▸ h.dlOne
    · intro hs; exact h.wc (hfl.mem_iff.1 hs)
  | quit c b hend hc hcases =>
    have hperm := quit_perm hc hcases
    have hsub : ∀ x, x ∈ atomsList (st.bag.eraseIdx idx) → x ∈ st.inFlight :=
      fun x hx => hperm.mem_iff.2 (List.mem_cons_of_mem _ hx)
    have hkeep : ∀ x, x ∈ st.inFlight → x ≠ Cmd.shutdown → (∀ b', x ≠ Cmd.quit b') → x ∈ atomsList (st.bag.eraseIdx idx) := by
      intro x hx h1 h2
      refine (List.mem_cons.1 (hperm.mem_iff.1 hx)).resolve_left fun hxc => ?_
      subst hxc
      rcases hcases with ⟨hc1, _⟩ | hc1
      · exact h1 hc1
      · exact h2 _ hc1
    refine ⟨h.noWalker, ?_, ?_, ?_, ?_, ?_, h.doneW, h.outs⟩
    · intro w hw ho hwk
      rcases h.walkA w hw ho hwk with ⟨seg, hs⟩ | hs
      · exact Or.inl ⟨seg, hkeep _ hs (by simp) (by simp)⟩
      · exact Or.inr (hkeep _ hs (by simp) (by simp))
    · intro w hw ho hwk; exact hkeep _ (h.walkB w hw ho hwk) (by simp) (by simp)
    · intro seg hs; exact h.dlCur seg (hsub _ hs)
    · have := (filter_len_perm_cons Cmd.isDlCur hperm).1
      have h1 := h.dlOne
      show ((atomsList (st.bag.eraseIdx idx)).filter Cmd.isDlCur).length ≤ 1
      omega
    · intro hs; exact h.wc (hsub _ hs)
  | panic c m st1 err hend hc hex hupd => exact (no_panic_step hg hc hex hupd).elim
  | msg c m st1 st2 oc hend hc hex hupd => exact liveW_msg (msgStep_of st idx e c m st1 st2 oc hg hc hex hupd) hex h

theorem init_liveW {c : Cfg} {fix : Patch} {files : Files} {st : State} (hc : c.OK)
    (h : init c fix files = .ok st) : LiveW st := by
  obtain ⟨s, tm, dl, all, i0⟩ := init_shape h
  have hctrl := tryMergeList_ctrl _ s st.stages tm (initStages_base hc i0.stages0).1 i0.merged
  have hno : ∀ x ∈ st.inFlight, (∀ seg, x ≠ Cmd.downloadCurrent seg) ∧ x ≠ Cmd.walkerCompleted := by
    intro x hx
    rw [i0.flight] at hx
    simp only [List.mem_append, List.mem_singleton] at hx
    rcases hx with ((hx | hx) | hx) | hx
    · rw [i0.dlEq x hx]; exact ⟨fun _ => nofun, nofun⟩
    · subst hx; exact ⟨fun _ => nofun, nofun⟩
    · rw [(i0.allEq x hx).1]; exact ⟨fun _ => nofun, nofun⟩
    · rcases (hctrl x hx).1 with rfl | ⟨u, rfl⟩ | ⟨u, rfl⟩ <;> exact ⟨fun _ => nofun, nofun⟩
  refine ⟨fun hn => ?_, fun w hw _ hwk => ?_, fun w hw _ _ => ?_, fun seg hs' => absurd rfl ((hno _ hs').1 seg), ?_,
    fun hs' => absurd rfl (hno _ hs').2, fun ho w hw => ?_, fun w hw i h1 h2 => ?_⟩
  · rw [i0.outDone, hn]; rfl
  · rw [(i0.walker w hw).1] at hwk; cases hwk
  · rw [i0.flight]
    have := i0.dlIn (by rw [hw]; rfl)
    simp [this]
  · rw [filter_dlCur_nil.2 fun seg hs' => absurd rfl ((hno _ hs').1 seg)]; exact Nat.zero_le 1
  · rw [i0.outDone, hw] at ho; cases ho
  · rw [(i0.walker w hw).2] at h2; omega

theorem reachable_liveW {c : Cfg} {fix : Patch} {files : Files} {st : State} (hc : c.OK) (hf : fix.shadow = true)
    (h : Reachable c fix files st) : LiveW st := by
  induction h with
  | init h0 => exact init_liveW hc h0
  | @step st0 idx e hr ih => exact step_liveW st0 idx e (reachable_good hc hf hr) ih

/-! ### witnesses (configurations and schedules) used by the `example`s of `Props/C05.lean`; found by the harness or
the model's explorer (`Driver/C05.lean`) and replayed on the real code by `harness/cmd/vh_c05` -/
namespace Witness

def mkCfg (k : Nat) (bs we re : Option Range) (graph : List StageCfg) (start xi w : Nat) : Cfg where
  interval := k
  buildStores := bs
  writeExecOut := we
  readExecOut := re
  graph := graph
  start := start
  outIsIndex := false
  outIsMap := true
  outInit := xi
  workers := w

/-- F15: S0@5 (stage 0), S1@25 (stage 1), mapper x@25; segment size 10; start 25; hand-off 40; empty cache; 1 worker -/
def cfgF15 : Cfg := mkCfg 10 (some ⟨5, 40⟩) (some ⟨20, 40⟩) (some ⟨25, 40⟩) [⟨.store, [5]⟩, ⟨.store, [25]⟩, ⟨.map, [25]⟩] 25 25 1
def schedF15 : List (Nat × Bool) := [(0,false),(2,false),(0,false),(3,false),(0,false),(3,false),(0,false),(0,false),(2,false),(2,false),(1,false),(2,false),(3,false),(4,false),(3,false),(4,false),(4,false),(1,true),(1,true),(3,true),(3,true),(3,true),(1,true),(2,true)]

/-- F20: development mode, two store stages from block 0, hand-off 20, start 15; the cache holds the snapshot of the
lower store at block 20 but not at block 10; 2 workers -/
def cfgF20 : Cfg := mkCfg 10 (some ⟨0, 20⟩) none none [⟨.store, [0]⟩, ⟨.store, [0]⟩, ⟨.map, [0]⟩] 15 0 2
def filesF20 : Files := ⟨[⟨0, 0, false, 0, 20⟩], []⟩
def schedF20 : List (Nat × Bool) := [(0,false),(1,false),(0,false),(2,false),(0,false),(0,false),(1,false),(1,false)]

/-- F19 (merged twice): one store S@0 and the mapper; range [0,20); an interrupted earlier request left S's partial
for segment 0; 1 worker -/
def cfgTwice : Cfg := mkCfg 10 (some ⟨0, 20⟩) (some ⟨0, 20⟩) (some ⟨0, 20⟩) [⟨.store, [0]⟩, ⟨.map, [0]⟩] 0 0 1
def filesTwice : Files := ⟨[⟨0, 0, true, 0, 10⟩], []⟩
def schedTwice : List (Nat × Bool) := [(0,false),(2,false),(0,false),(2,false),(0,false),(2,false),(3,false),(3,false),(2,false),(3,false),(3,false),(3,false),(5,false),(3,false),(5,false),(5,false)]

/-- F19 (deadlock, EMPTY cache): three store stages and the mapper, all from block 0; range [0,30), start 6; 2 workers -/
def cfgDead : Cfg := mkCfg 10 (some ⟨0, 30⟩) (some ⟨0, 30⟩) (some ⟨6, 30⟩)
  [⟨.store, [0]⟩, ⟨.store, [0]⟩, ⟨.store, [0]⟩, ⟨.map, [0]⟩] 6 0 2
def schedDead : List (Nat × Bool) := [(0,false),(2,false),(0,false),(4,false),(0,false),(4,false),(0,false),(0,false),(0,false),(2,false),(2,false),(1,false),(2,false),(2,false),(2,false),(6,false),(2,false),(6,false),(6,false),(0,false),(6,false),(6,false),(6,false),(0,true),(6,true),(7,true),(0,true),(6,true),(6,true),(6,true),(1,true),(5,true),(5,true),(5,true),(1,true),(4,true),(5,true),(5,true),(1,true),(2,true),(3,true),(3,true),(3,true),(3,true),(2,true),(2,true),(2,true),(3,true),(4,true),(2,true),(3,true),(3,true),(4,true),(3,true),(4,true),(2,true),(3,true),(3,true),(3,true),(3,true),(4,true),(0,true),(3,true),(3,true),(3,true),(0,true),(2,true),(2,true),(2,true),(0,true),(2,true),(2,true),(2,true),(2,true),(0,true),(1,true),(1,true),(2,true),(1,true),(2,true),(1,true),(1,true),(1,true),(1,true),(1,true),(0,true),(1,true),(1,true),(1,true),(0,true),(0,true),(0,true),(0,true)]

/-- F19 (panic): development mode, three store stages from block 0, hand-off 20; the cache holds the partial of the top
store for segment 1; 2 workers -/
def cfgPanic : Cfg := mkCfg 10 (some ⟨0, 20⟩) none none [⟨.store, [0]⟩, ⟨.store, [0]⟩, ⟨.store, [0]⟩, ⟨.map, [0]⟩] 15 0 2
def filesPanic : Files := ⟨[⟨2, 0, true, 10, 20⟩], []⟩
def schedPanic : List (Nat × Bool) := [(0,false),(1,false),(0,false),(3,false),(0,false),(0,false),(0,false),(1,false),(1,false),(0,false),(1,false),(1,false),(1,false),(4,false),(5,false),(5,false),(0,true),(1,true),(4,true),(4,true),(4,true),(1,true),(3,true),(3,true),(3,true),(1,true),(2,true),(3,true),(1,true),(1,true),(1,true),(1,true),(2,true),(1,true),(2,true),(0,true),(1,true),(1,true)]

/-- F21 (fixed at HEAD by commit 38ce9883): the only store starts at block 30, after the hand-off 20; mapper from 0 -/
def cfgShift : Cfg := mkCfg 10 none (some ⟨0, 20⟩) (some ⟨0, 20⟩) [⟨.store, [30]⟩, ⟨.map, [0]⟩] 0 0 1
def schedShift : List (Nat × Bool) := [(0,false),(0,false),(2,false)]

/-- a decidable check of `Cfg.OK` -/
def check (c : Cfg) : Bool :=
  decide (0 < c.interval) &&
  (match c.buildStores with | none => true | some r => decide (0 < r.stop) && r.stop % c.interval == 0) &&
  (match c.writeExecOut with | none => true | some r => decide (0 < r.stop) && r.stop % c.interval == 0) &&
  (List.range (c.graph.length - 1)).all fun i => (c.graph.getD i ⟨.map, []⟩).kind == .store

theorem ok_of_check (c : Cfg) (h : check c = true) : c.OK := by
  unfold check at h
  simp only [Bool.and_eq_true, decide_eq_true_eq, List.all_eq_true, List.mem_range, beq_iff_eq] at h
  obtain ⟨⟨⟨h1, h2⟩, h3⟩, h4⟩ := h
  refine ⟨h1, ?_, ?_, ?_⟩
  · intro r hr; rw [hr] at h2; simpa using h2
  · intro r hr; rw [hr] at h3; simpa using h3
  · intro i hi; exact h4 i (by omega)

/-- the state reached from the initial state by a schedule (`none` if the initial state panics) -/
def after (c : Cfg) (fix : Patch) (files : Files) (sched : List (Nat × Bool)) : Option State :=
  match init c fix files with
  | .ok st => some (runSched st sched)
  | .error _ => none

end Witness

end SV.Sch
