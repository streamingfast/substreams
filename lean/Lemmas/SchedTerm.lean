import Lemmas.Sched
/-!
Termination measure of the scheduler model (C05).  `LenLe B`: the unit-state matrix never grows beyond segment `B`, the last
segment of the request.  The measure `mu` is, lexicographically, how far the units are from Completed (`potR`), the segments
the walker has still to see (`potW`) and the weight of the bag; `step_decreases`: every step that executes a command and is
not a poll (file not there yet, worker ramp-up delay) decreases it.
-/
namespace SV.Stg.Stages
open SV SV.Stg

/-- the matrix has no row beyond segment `B` -/
def LenLe (B : Nat) (s : Stages) : Prop := s.offset + s.states.length ≤ B + 1

theorem allocSegments_lenLe {B : Nat} (s : Stages) (seg : Nat) (h : seg ≤ B) (hl : LenLe B s) :
    LenLe B (s.allocSegments seg) := by
  unfold allocSegments
  split
  · exact hl
  · split
    · exact hl
    · unfold LenLe at *
      simp only [List.length_append, List.length_replicate]
      omega

theorem transition_lenLe {B : Nat} {s s' : Stages} {u : WorkUnit} {to : UnitState} {al : List UnitState}
    (h : s.transition u to al = .ok s') (hu : u.seg ≤ B) (hl : LenLe B s) : LenLe B s' := by
  have hset := (transition_ok h).2
  have := allocSegments_lenLe s u.seg hu hl
  unfold LenLe at *
  rw [setState_length hset, (setState_rest hset).offset]; exact this

theorem seg_le_of_state {B : Nat} (s : Stages) (hw : s.WF) (hl : LenLe B s) (seg stg : Nat)
    (h1 : s.getState seg stg ≠ .pending) (h2 : s.getState seg stg ≠ .noOp) : seg ≤ B ∧ stg < s.nStages := by
  obtain ⟨a, b, c⟩ := in_range_of_state s hw seg stg h1 h2
  unfold LenLe at hl
  exact ⟨by omega, c⟩

theorem markShadowedUnits_lenLe {B : Nat} {fix : Patch} {s s' : Stages} {seg : Nat} {sh : Bool}
    (h : s.markShadowedUnits fix seg = .ok (s', sh)) (hseg : seg ≤ B) (hl : LenLe B s) : LenLe B s' := by
  unfold markShadowedUnits at h
  split at h
  · cases h; exact hl
  · have r := markShadowedLoop_rest h
    have := allocSegments_lenLe s seg hseg hl
    unfold LenLe at *
    rw [r.1.offset, r.2]; exact this

theorem nextJobSegs_lenLe {B : Nat} {fix : Patch} {fuel seg : Nat} {s s' : Stages} {res : Option (WorkUnit × Range)}
    (hb : seg + fuel ≤ B + 1) (hl : LenLe B s) (h : nextJobSegs fix fuel seg s = .ok (s', res)) : LenLe B s' := by
  -- one segment: `markShadowedUnits`, then the inner loop, whose transitions are all at this segment
  have one : ∀ {seg : Nat} {s s1 : Stages} {sh : Bool} {r : StageStep}, seg ≤ B → LenLe B s →
      s.markShadowedUnits fix seg = .ok (s1, sh) → nextJobStages fix seg sh s1.nStages s1 = .ok r →
      match r with
      | .next s2 => LenLe B s2
      | .found s2 _ _ => LenLe B s2 := fun hseg hl h1 h2 =>
    (nextJobStages_run fix _ _ _ _).preserves (fun hl h => transition_lenLe h hseg hl)
      (markShadowedUnits_lenLe h1 hseg hl) _ h2
  fun_induction nextJobSegs fix fuel seg s
  case case1 => cases h; exact hl
  case case2 => cases h
  case case3 => cases h
  case case4 h1 _ _ _ h2 => cases h; exact one (by omega) hl h1 h2
  case case5 h1 _ h2 ih => exact ih (by omega) (one (by omega) hl h1 h2) h

theorem nextJob_lenLe {B : Nat} (fix : Patch) (s s' : Stages) (res : Option (WorkUnit × Range))
    (hB : s.globalSeg.lastIndex ≤ B) (hB' : s.globalSeg.firstIndex ≤ B + 1) (hl : LenLe B s)
    (h : s.nextJob fix = .ok (s', res)) : LenLe B s' :=
  nextJobSegs_lenLe (by omega) hl h

theorem jobSuccessLoop_lenLe {B seg k : Nat} {s s' : Stages} {acc acc' : List WorkUnit} (hseg : seg ≤ B)
    (hl : LenLe B s) (h : jobSuccessLoop seg k s acc = .ok (s', acc')) : LenLe B s' := by
  fun_induction jobSuccessLoop seg k s acc
  case case1 => cases h; exact hl
  case case2 => cases h
  case case3 hs ih => exact ih (transition_lenLe hs hseg hl) h
  case case4 ih => exact ih hl h

theorem markJobSuccess_lenLe {B : Nat} {s s' : Stages} {u : WorkUnit} {l : List WorkUnit}
    (h : s.markJobSuccess u = .ok (s', l)) (hu : u.seg ≤ B) (hl : LenLe B s) : LenLe B s' := by
  obtain ⟨s1, k, _, hs1, hloop⟩ := markJobSuccess_inv h
  exact jobSuccessLoop_lenLe hu (transition_lenLe hs1 hu hl) hloop

theorem cmdTryMerge_lenLe {B : Nat} {s s' : Stages} {i : Nat} {t : TryMerge} (h : s.cmdTryMerge i = .ok (s', t))
    (hw : s.WF) (hl : LenLe B s) : LenLe B s' := by
  rcases cmdTryMerge_cases s i with ⟨t', e, _, _⟩ | ⟨_, _, hpp, _, e⟩
  · rw [e] at h; cases h; exact hl
  · rw [e] at h
    cases htr : s.transition ⟨(s.stageAt i).next, (s.stageAt i).idx⟩ .merging [.partialPresent] with
    | error err => rw [htr] at h; cases h
    | ok s1 =>
      rw [htr] at h; cases h
      -- the unit is PartialPresent: inside the matrix
      exact transition_lenLe htr (seg_le_of_state s hw hl _ _ (by rw [hpp]; simp) (by rw [hpp]; simp)).1 hl

theorem mergeCompleted_lenLe {B : Nat} {s s' : Stages} {u : WorkUnit} (h : s.mergeCompleted u = .ok s')
    (hu : u.seg ≤ B) (hl : LenLe B s) : LenLe B s' := by
  obtain ⟨s0, hs0, rfl⟩ := mergeCompleted_eq h
  -- `moveSegmentCompletedForward` only sets a stage: `offset` and `states` are those of `s0` by definition
  have : LenLe B s0 := transition_lenLe hs0 hu hl
  exact this

end SV.Stg.Stages

namespace SV.Sch
open SV SV.Stg SV.Stg.Stages

theorem SameButMods.lenLe {B : Nat} {s s' : Stages} (hs : SameButMods s s') (h : LenLe B s) : LenLe B s' := by
  unfold LenLe at *
  rw [hs.states, hs.same.offset]; exact h

theorem tryMergeList_lenLe {B : Nat} : ∀ (l : List Nat) (s s' : Stages) (cmds : List (Option Cmd)), s.WF →
    tryMergeList l s = .ok (s', cmds) → LenLe B s → LenLe B s' :=
  tryMergeList_lift (R := fun a b => LenLe B a → LenLe B b) (fun _ h => h) (fun h1 h2 h => h2 (h1 h))
    fun hw h hl => cmdTryMerge_lenLe h hw hl

structure Bnd (B n : Nat) (s : Stages) : Prop where
  last  : s.globalSeg.lastIndex ≤ B
  first : s.globalSeg.firstIndex ≤ B + 1   -- the fuel of `nextJobSegs`: `firstIndex + fuel ≤ B + 1`, also for an empty segmenter
  len   : LenLe B s
  nst   : s.nStages = n

theorem Bnd.of {B n : Nat} {s s' : Stages} (h : Bnd B n s) (hg : s'.globalSeg = s.globalSeg) (hn : s'.nStages = s.nStages)
    (hl : LenLe B s') : Bnd B n s' :=
  ⟨by rw [hg]; exact h.last, by rw [hg]; exact h.first, hl, by rw [hn]; exact h.nst⟩

variable {st st' : State} {e : Bool} {m : Msg} {oc : Option Cmd}

theorem Upd.bnd {B n : Nat} {A : List Cmd} (h : Upd st e m st' oc) (r : MsgReady st A m) (hb : Bnd B n st.stages) :
    Bnd B n st'.stages := by
  have ev := h.stagesEvo r
  obtain ⟨_, hw, _, _, _, hpre⟩ := r
  refine hb.of ev.keep.global ev.nst ?_
  -- the unit of a job result or of a finished merge is inside the matrix
  have inside : ∀ u : WorkUnit, st.stages.getState u.seg u.stage = .scheduled ∨ st.stages.getState u.seg u.stage = .merging →
      u.seg ≤ B := fun u hu =>
    (seg_le_of_state st.stages hw hb.len u.seg u.stage (by rcases hu with hu | hu <;> rw [hu] <;> simp)
      (by rcases hu with hu | hu <;> rw [hu] <;> simp)).1
  cases h with
  | jobSucceeded h1 _ h2 =>
    exact tryMergeList_lenLe _ _ _ _ ((markJobSuccess_tstep h1).wf hw) h2
      (markJobSuccess_lenLe h1 (inside _ (Or.inl hpre.1)) hb.len)
  | noJob _ hnj | handOut _ hnj _ => exact nextJob_lenLe st.fix _ _ _ hb.last hb.first hb.len hnj
  | mergeFinished h1 h2 =>
    exact cmdTryMerge_lenLe h2 ((mergeCompleted_evo h1 hw hpre.1).keep.wf hw)
      (mergeCompleted_lenLe h1 (inside _ (Or.inr hpre.1)) hb.len)
  | _ => exact hb.len

theorem sum_map_le {α : Type} (l : List α) (f g : α → Nat) (h : ∀ x ∈ l, f x ≤ g x) : (l.map f).sum ≤ (l.map g).sum := by
  induction l with
  | nil => simp
  | cons a t ih =>
    simp only [List.map_cons, List.sum_cons]
    have h1 := h a (List.mem_cons_self)
    have h2 := ih (fun x hx => h x (List.mem_cons_of_mem _ hx))
    omega

theorem sum_map_lt {α : Type} (l : List α) (f g : α → Nat) (h : ∀ x ∈ l, f x ≤ g x) (a : α) (ha : a ∈ l)
    (hlt : f a < g a) : (l.map f).sum < (l.map g).sum := by
  induction l with
  | nil => cases ha
  | cons b t ih =>
    simp only [List.map_cons, List.sum_cons]
    have h1 := h b (List.mem_cons_self)
    have h2 := sum_map_le t f g (fun x hx => h x (List.mem_cons_of_mem _ hx))
    rcases List.mem_cons.1 ha with e | e
    · subst e; omega
    · have := ih (fun x hx => h x (List.mem_cons_of_mem _ hx)) e; omega

def cellPot (s : Stages) (seg stg : Nat) : Nat := 4 - rank (s.getState seg stg)
def rowPot (s : Stages) (n seg : Nat) : Nat := ((List.range n).map (cellPot s seg)).sum
def potR (B n : Nat) (s : Stages) : Nat := ((List.range (B + 1)).map (rowPot s n)).sum

theorem rank_le_four (x : UnitState) : rank x ≤ 4 := by cases x <;> simp [rank]

theorem potR_le {B n : Nat} {s s' : Stages} (h : Mono s s') : potR B n s' ≤ potR B n s := by
  unfold potR
  apply sum_map_le
  intro seg _
  unfold rowPot
  apply sum_map_le
  intro stg _
  unfold cellPot
  have := h seg stg
  omega

theorem potR_lt {B n : Nat} {s s' : Stages} (h : Mono s s') (seg stg : Nat) (h1 : seg ≤ B) (h2 : stg < n)
    (hlt : rank (s.getState seg stg) < rank (s'.getState seg stg)) : potR B n s' < potR B n s := by
  unfold potR
  apply sum_map_lt _ _ _ _ seg (List.mem_range.2 (by omega))
  · unfold rowPot
    apply sum_map_lt _ _ _ _ stg (List.mem_range.2 h2)
    · unfold cellPot
      have := rank_le_four (s'.getState seg stg)
      omega
    · intro x _
      unfold cellPot
      have := h seg x
      omega
  · intro x _
    unfold rowPot
    apply sum_map_le
    intro y _
    unfold cellPot
    have := h x y
    omega

/-- a cell whose rank has grown is inside the matrix -/
theorem potR_lt_of_rank {B n : Nat} {s s' : Stages} (h : Mono s s') (hw : s'.WF) (hb : Bnd B n s') {seg stg : Nat}
    (hlt : rank (s.getState seg stg) < rank (s'.getState seg stg)) : potR B n s' < potR B n s := by
  have hne1 : s'.getState seg stg ≠ .pending := by intro hh; rw [hh] at hlt; simp [rank] at hlt
  have hne2 : s'.getState seg stg ≠ .noOp := by intro hh; rw [hh] at hlt; simp [rank] at hlt
  have hr := seg_le_of_state s' hw hb.len seg stg hne1 hne2
  exact potR_lt h seg stg hr.1 (by rw [← hb.nst]; exact hr.2) hlt

def potW (st : State) : Nat :=
  match st.walker with
  | none => 0
  | some w => w.seg.lastIndex + 1 - w.cur

mutual
/-- weight of a command: larger than the weight of what its message can put back into the bag when the answer
changes nothing else: `downloadSegment` 4 > 1 + 2 (a batch with `downloadCurrent`), `merge` 3 > 1 + 1 (a batch with `quit`),
`walkerCompleted` 2 > 1 (`shutdown`), `allStoresCompleted` 5 > 1 + 1 + 1 -/
def Cmd.weight : Cmd → Nat
  | .batch l => 1 + weightList l
  | .scheduleNextJob => 1
  | .allStoresCompleted => 5
  | .mergeNotReady _ => 1
  | .merge _ => 3
  | .downloadSegment => 4
  | .downloadCurrent _ => 2
  | .walkerCompleted => 2
  | .shutdown => 1
  | .quit _ => 1
  | .tick => 1
  | .job _ _ _ => 1
def weightList : List Cmd → Nat
  | [] => 0
  | c :: cs => c.weight + weightList cs
end

theorem weightList_append (a b : List Cmd) : weightList (a ++ b) = weightList a + weightList b := by
  induction a with
  | nil => simp [weightList]
  | cons x xs ih => simp only [List.cons_append, weightList, ih]; omega

theorem weightList_eraseIdx : ∀ (l : List Cmd) (i : Nat) (c : Cmd), l[i]? = some c →
    weightList l = c.weight + weightList (l.eraseIdx i) := by
  intro l
  induction l with
  | nil => intro i c h; simp at h
  | cons x xs ih =>
    intro i c h
    cases i with
    | zero => simp at h; subst h; simp [weightList]
    | succ j =>
      simp only [List.getElem?_cons_succ] at h
      simp only [List.eraseIdx_cons_succ, weightList]
      have := ih j c h
      omega

theorem mkBatch_weight (l : List (Option Cmd)) : weightList (mkBatch l).toList ≤ 1 + weightList (l.filterMap id) := by
  unfold mkBatch
  split
  · simp [weightList]
  · rename_i l' _ 
    simp [weightList, Cmd.weight]

def mu (B n : Nat) (st : State) : Nat × Nat × Nat := (potR B n st.stages, potW st, weightList st.bag)

def LT3 : (Nat × Nat × Nat) → (Nat × Nat × Nat) → Prop := Prod.Lex (· < ·) (Prod.Lex (· < ·) (· < ·))

theorem LT3_wf : WellFounded LT3 :=
  (Prod.lex ⟨_, Nat.lt_wfRel.wf⟩ (Prod.lex ⟨_, Nat.lt_wfRel.wf⟩ ⟨_, Nat.lt_wfRel.wf⟩)).wf

theorem LT3.r {a a' b b' c c' : Nat} (h : a' < a) : LT3 (a', b', c') (a, b, c) := Prod.Lex.left _ _ h
theorem LT3.w {a a' b b' c c' : Nat} (ha : a' ≤ a) (h : b' < b) : LT3 (a', b', c') (a, b, c) := by
  rcases Nat.lt_or_ge a' a with h1 | h1
  · exact Prod.Lex.left _ _ h1
  · have : a' = a := Nat.le_antisymm ha h1
    subst this
    exact Prod.Lex.right _ (Prod.Lex.left _ _ h)
theorem LT3.b {a a' b b' c c' : Nat} (ha : a' ≤ a) (hb : b' ≤ b) (h : c' < c) : LT3 (a', b', c') (a, b, c) := by
  rcases Nat.lt_or_ge b' b with h1 | h1
  · exact LT3.w ha h1
  · have : b' = b := Nat.le_antisymm hb h1
    subst this
    rcases Nat.lt_or_ge a' a with h2 | h2
    · exact Prod.Lex.left _ _ h2
    · have : a' = a := Nat.le_antisymm ha h2
      subst this
      exact Prod.Lex.right _ (Prod.Lex.right _ h)

theorem cmdShutdown_weight (st : State) : weightList (cmdShutdownWhenComplete st).toList ≤ 1 := by
  rcases cmdShutdown_cases st with ⟨e, _⟩ | ⟨e, _⟩ <;> rw [e] <;> simp [weightList, Cmd.weight]

/-- the messages that only put commands back into the bag -/
def Msg.light : Msg → Bool
  | .allStoresCompleted | .mergeFailed _ | .mergeNotReady _ | .downloadSegment | .walkerCompleted => true
  | _ => false

theorem Upd.light {c : Cmd} (h : Upd st e m st' oc) (ha : Answers c m) (hm : m.light = true) :
    weightList oc.toList < c.weight := by
  cases h with
  | allStoresCompleted =>
    cases ha
    have h1 := mkBatch_weight [some Cmd.scheduleNextJob, cmdShutdownWhenComplete { st with storesDone := true }]
    have h2 := cmdShutdown_weight { st with storesDone := true }
    have h3 : weightList ([some Cmd.scheduleNextJob, cmdShutdownWhenComplete { st with storesDone := true }].filterMap id) ≤ 2 := by
      cases hx : cmdShutdownWhenComplete { st with storesDone := true } with
      | none => simp [weightList, Cmd.weight]
      | some x => rw [hx] at h2; simp [weightList, Cmd.weight] at h2 ⊢; omega
    simp only [Cmd.weight]
    omega
  | walkerCompleted =>
    cases ha
    have h2 := cmdShutdown_weight { st with outDone := true }
    simp only [Cmd.weight]
    omega
  | mergeNotReady | dlIdle | dlDone => cases ha; simp [weightList, Cmd.weight]
  | mergeFailed | dlNext => cases ha; simp [mkBatch, weightList, Cmd.weight]
  | _ => cases hm

theorem Upd.job_rank {u : WorkUnit} {w : Nat} (h : Upd st e (.jobSucceeded u w) st' oc) (hw : st.stages.WF)
    (hs : st.stages.getState u.seg u.stage = .scheduled) :
    rank (st.stages.getState u.seg u.stage) < rank (st'.stages.getState u.seg u.stage) := by
  cases h with
  | jobSucceeded h1 _ h2 =>
    have hm := tryMergeList_mono _ _ _ _ ((markJobSuccess_tstep h1).wf hw) h2 u.seg u.stage
    rw [markJobSuccess_target h1 hw] at hm
    rw [hs]
    exact hm

theorem Upd.merged_rank {u : WorkUnit} (h : Upd st e (.mergeFinished u) st' oc) (hw : st.stages.WF)
    (hm : st.stages.getState u.seg u.stage = .merging) :
    rank (st.stages.getState u.seg u.stage) < rank (st'.stages.getState u.seg u.stage) := by
  cases h with
  | mergeFinished h1 h2 =>
    obtain ⟨_, _, _, _, _, _, _, hw1, _, hcompl⟩ := mergeCompleted_spec h1 hw
    have hmono := cmdTryMerge_mono h2 hw1 u.seg u.stage
    rw [hcompl hm] at hmono
    rw [hm]
    exact hmono

/-- what an answer of `update` does for the measure: a unit moves forward, or the answer is lighter than the command, or
the step is one of the two polls, or the walker has its file -/
theorem Upd.progress {A : List Cmd} {c : Cmd} (h : Upd st e m st' oc) (r : MsgReady st A m) (ha : Answers c m) :
    (∃ seg stg, rank (st.stages.getState seg stg) < rank (st'.stages.getState seg stg)) ∨
    weightList oc.toList < c.weight ∨
    (m = .scheduleNextJob ∧ (st.pool.workerAvailable e).2.1 = false ∧ (st.pool.workerAvailable e).2.2 = true) ∨
    m = .fileNotPresent ∨ m = .fileDownloaded := by
  have hl := h.light ha
  cases ha with
  | sched | tick =>
    cases h with
    | @busy pool retry hwa =>
      cases retry with
      | false => exact Or.inr (Or.inl (by simp [weightList, Cmd.weight]))
      | true => exact Or.inr (Or.inr (Or.inl ⟨rfl, by rw [hwa], by rw [hwa]⟩))
    | noJob => exact Or.inr (Or.inl (by simp [weightList, Cmd.weight]))
    | handOut _ hnj _ =>
      have hch := nextJob_spec r.fix r.wf hnj
      exact Or.inl ⟨_, _, by rw [hch.was_pending, hch.scheduled]; decide⟩
  | job u sb w => exact Or.inl ⟨_, _, h.job_rank r.wf r.pre.1⟩
  | merged u => exact Or.inl ⟨_, _, h.merged_rank r.wf r.pre.1⟩
  | all | notReady | mergeFailed | wc | dl => exact Or.inr (Or.inl (hl rfl))
  | absent => exact Or.inr (Or.inr (Or.inr (Or.inl rfl)))
  | present => exact Or.inr (Or.inr (Or.inr (Or.inr rfl)))

theorem polls_busy {st : State} {idx : Nat} {e : Bool} {c : Cmd} (hc : st.bag[idx]? = some c)
    (ha : Answers c .scheduleNextJob) (h1 : (st.pool.workerAvailable e).2.1 = false)
    (h2 : (st.pool.workerAvailable e).2.2 = true) : polls st idx e = true := by
  unfold polls
  rw [hc]
  cases ha <;> simp [h1, h2]

theorem polls_absent {st st1 : State} {idx : Nat} {e : Bool} {c : Cmd} (hc : st.bag[idx]? = some c)
    (hex : exec { st with bag := st.bag.eraseIdx idx } c = (st1, .msg .fileNotPresent)) : polls st idx e = true := by
  unfold polls
  rw [hc]
  cases exec_answers _ c _ (by rw [hex])
  simp only [hex]

theorem potW_eq_of_walker {st st' : State} (h : st'.walker = st.walker) : potW st' = potW st := by
  unfold potW; rw [h]

/-- the walker never goes back -/
theorem Upd.potW_le (h : Upd st e m st' oc) : potW st' ≤ potW st := by
  cases h with
  | fileDownloaded =>
    unfold potW
    cases st.walker with
    | none => exact Nat.le_refl _
    | some w => exact Nat.sub_le_sub_left (Nat.le_succ w.cur) _
  | fileNotPresent => unfold potW; cases st.walker <;> exact Nat.le_refl _
  | dlDone hw _ _ | dlNext hw _ _ => unfold potW; rw [hw]; exact Nat.le_refl _
  | _ => exact Nat.le_refl _

theorem step_decreases {B n : Nat} (st : State) (idx : Nat) (e : Bool) (c : Cmd) (hg : Good st) (hlw : LiveW st)
    (hb : Bnd B n st.stages) (hend : st.ended = none) (hc : st.bag[idx]? = some c) (hpoll : polls st idx e = false) :
    (step st idx e).ended ≠ none ∨ (Bnd B n (step st idx e).stages ∧ LT3 (mu B n (step st idx e)) (mu B n st)) := by
  have hwt := weightList_eraseIdx st.bag idx c hc
  have hk := step_kind st idx e
  generalize step st idx e = s' at hk
  cases hk with
  | idle hi =>
    rcases hi with hi | hi
    · exact absurd hend hi
    · rw [hc] at hi; cases hi
  | quit | panic => exact Or.inl nofun
  | batch l _ hc' =>
    rw [hc] at hc'; cases hc'
    refine Or.inr ⟨hb, LT3.b (Nat.le_refl _) (Nat.le_refl _) ?_⟩
    show weightList (st.bag.eraseIdx idx ++ l) < weightList st.bag
    rw [weightList_append, hwt]
    simp only [Cmd.weight]
    omega
  | msg c' m st1 st2 oc _ hc' hex hupd =>
    rw [hc] at hc'; cases hc'
    right
    have ms := msgStep_of st idx e c m st1 st2 oc hg hc hex hupd
    obtain ⟨_, r⟩ := msg_ready hg hc hex
    have fr := exec_taken hex
    have hU := update_inv hupd
    have ev := hU.stagesEvo r
    have hmono : Mono st.stages st2.stages := (Mono.of_eq ms.same1.get).trans ev.mono
    have hb2 : Bnd B n st2.stages :=
      hU.bnd r (hb.of fr.stages.same.global fr.stages.nStages (fr.stages.lenLe hb.len))
    refine ⟨hb2, ?_⟩
    have hmu : mu B n { st2 with bag := st2.bag ++ oc.toList } =
        (potR B n st2.stages, potW st2, weightList (st.bag.eraseIdx idx) + weightList oc.toList) := by
      unfold mu
      simp only [weightList_append, hU.frame.2.2.1.trans fr.bag]
      rfl
    rw [hmu]
    have hR : potR B n st2.stages ≤ potR B n st.stages := potR_le hmono
    have hW : potW st2 ≤ potW st := Nat.le_trans hU.potW_le (Nat.le_of_eq (potW_eq_of_walker ms.walker1))
    rcases hU.progress r ms.ans with ⟨seg, stg, hlt⟩ | hlt | ⟨rfl, h1, h2⟩ | rfl | rfl
    · rw [ms.same1.get] at hlt
      exact LT3.r (potR_lt_of_rank hmono (ev.keep.wf r.wf) hb2 hlt)
    · apply LT3.b hR hW
      show _ < weightList st.bag
      rw [hwt]; omega
    · rw [fr.pool] at h1 h2
      rw [polls_busy hc ms.ans h1 h2] at hpoll; cases hpoll
    · rw [polls_absent hc hex] at hpoll; cases hpoll
    · -- the walker moves to the next segment
      cases hans : ms.ans with
      | present seg =>
        obtain ⟨w, hwk, _, hcur, hnd⟩ := hlw.dlCur seg ms.cmd_mem
        simp only [Walker.isDone, decide_eq_false_iff_not] at hnd
        apply LT3.w hR
        unfold potW
        rw [ms.walker2, hwk]
        simp only [Option.map_some]
        omega

theorem acc_workStep {c : Cfg} {fix : Patch} {files : Files} (hc : c.OK) (hf : fix.shadow = true) (B n : Nat) :
    ∀ (x : Nat × Nat × Nat) (st : State), mu B n st = x → Reachable c fix files st → Bnd B n st.stages →
      Acc (WorkStep c fix files) st := by
  intro x
  induction x using LT3_wf.induction with
  | h x ih =>
    intro st hmu hr hb
    constructor
    intro b hstep
    obtain ⟨_, idx, e, hend, hidx, hpoll, hb'⟩ := hstep
    subst hb'
    have hcmd : st.bag[idx]? = some st.bag[idx] := List.getElem?_eq_getElem hidx
    rcases step_decreases st idx e _ (reachable_good hc hf hr) (reachable_liveW hc hf hr) hb hend hcmd hpoll with
      hended | ⟨hb2, hlt⟩
    · constructor
      intro b2 hstep2
      obtain ⟨_, _, _, hend2, _⟩ := hstep2
      exact absurd hend2 hended
    · exact ih _ (hmu ▸ hlt) _ rfl (Reachable.step idx e hr) hb2

theorem bnd_exists (s : Stages) : ∃ B n, Bnd B n s :=
  ⟨s.globalSeg.lastIndex + s.globalSeg.firstIndex + s.offset + s.states.length, s.nStages,
   ⟨by omega, by omega, by unfold LenLe; omega, rfl⟩⟩

end SV.Sch
