import Model.Segmenter
/-! Lemmas about `Model/Segmenter.lean` (C13).  Index `i` has a segment exactly when `[i*k, i*k+k)` meets `[init, end)`
(`firstIndex_le_iff`, `le_lastIndex_iff`), and the segment is the intersection (`range?_eq_some_iff`); `Range.split`
produces a chain of ranges (`Tiles`), `merged` keeps the covered blocks (`mem_Ico_split`).  Core Lean only. -/
namespace SV

theorem lt_div_succ_mul (a k : Nat) (hk : 0 < k) : a < (a / k + 1) * k :=
  (Nat.div_lt_iff_lt_mul hk).1 (Nat.lt_succ_self _)

theorem sub_mod_eq (a k : Nat) : a - a % k = a / k * k := by
  have h := Nat.div_add_mod a k
  rw [Nat.mul_comm] at h
  omega

theorem div_eq_iff' (b k i : Nat) (hk : 0 < k) : b / k = i ↔ i * k ≤ b ∧ b < (i + 1) * k := by
  rw [← Nat.le_div_iff_mul_le hk, ← Nat.div_lt_iff_lt_mul hk]
  omega

theorem sub_mod_mod (x k : Nat) : (x - x % k) % k = 0 := by
  rw [sub_mod_eq]; exact Nat.mul_mod_left _ _

theorem Plan.mul_div_lt_of_mod_zero (a h k : Nat) (hk : 0 < k) (hm : h % k = 0) (hlt : a < h) :
    a / k * k + k ≤ h := by
  have e : h / k * k = h := Nat.div_mul_cancel (Nat.dvd_of_mod_eq_zero hm)
  have h2 : a / k < h / k := (Nat.div_lt_iff_lt_mul hk).2 (e.symm ▸ hlt)
  rw [← Nat.succ_mul, ← e]
  exact Nat.mul_le_mul_right k h2

namespace Segmenter

variable (s : Segmenter)

theorem firstIndex_lt_iff (hk : 0 < s.interval) {i : Nat} : s.firstIndex < i ↔ s.init < i * s.interval :=
  Nat.div_lt_iff_lt_mul hk

theorem firstIndex_le_iff (hk : 0 < s.interval) {i : Nat} :
    s.firstIndex ≤ i ↔ s.init < i * s.interval + s.interval := by
  rw [← Nat.lt_succ_iff, firstIndex_lt_iff s hk, Nat.succ_mul]

theorem le_lastIndex_iff (hk : 0 < s.interval) (hpos : 0 < s.end_) {i : Nat} :
    i ≤ s.lastIndex ↔ i * s.interval < s.end_ := by
  rw [lastIndex, Nat.le_div_iff_mul_le hk]
  omega

theorem succ_mul_lt_end (hk : 0 < s.interval) (i : Nat) (h : i < s.lastIndex) :
    (i + 1) * s.interval < s.end_ := by
  have h2 : (i + 1) * s.interval ≤ s.end_ - 1 := (Nat.le_div_iff_mul_le hk).1 h
  have : 0 < (i + 1) * s.interval := Nat.mul_pos (by omega) hk
  omega

theorem end_le_last_succ_mul (hk : 0 < s.interval) (hpos : 0 < s.end_) :
    s.end_ ≤ (s.lastIndex + 1) * s.interval :=
  Nat.le_of_not_lt fun h => Nat.lt_irrefl _ ((le_lastIndex_iff s hk hpos).2 h)

theorem last_mul_lt_end (hk : 0 < s.interval) (hpos : 0 < s.end_) :
    s.lastIndex * s.interval < s.end_ :=
  (le_lastIndex_iff s hk hpos).1 (Nat.le_refl _)

theorem index_mem {b : Nat} (h1 : s.init ≤ b) (h2 : b < s.end_) :
    s.firstIndex ≤ s.indexForStartBlock b ∧ s.indexForStartBlock b ≤ s.lastIndex :=
  ⟨Nat.div_le_div_right h1, Nat.div_le_div_right (Nat.le_sub_one_of_lt h2)⟩

theorem first_le_last (hk : 0 < s.interval) (hlt : s.init < s.end_) : s.firstIndex ≤ s.lastIndex :=
  Nat.div_le_div_right (by omega)

theorem range?_eq (hk : 0 < s.interval) (hlt : s.init < s.end_) (i : Nat)
    (h1 : s.firstIndex ≤ i) (h2 : i ≤ s.lastIndex) :
    s.range? i = some ⟨max s.init (i * s.interval), min ((i + 1) * s.interval) s.end_⟩ := by
  unfold range?
  rw [if_neg (Nat.not_lt.2 h1), Nat.succ_mul]
  by_cases hi : i = s.firstIndex
  · have e : max s.init (s.firstIndex * s.interval) = s.init := Nat.max_eq_left (Nat.div_mul_le_self _ _)
    rw [if_pos hi, firstRange, if_neg (by omega), sub_mod_eq, hi, e]
    rfl
  · have hgt : s.init < i * s.interval := (firstIndex_lt_iff s hk).1 (by omega)
    rw [if_neg hi, followingRange, if_neg (Nat.not_lt.2 h2), Nat.max_eq_right (Nat.le_of_lt hgt)]

theorem range?_none_low (i : Nat) (h : i < s.firstIndex) : s.range? i = none := by
  rw [range?, if_pos h]

theorem range?_none_high (hk : 0 < s.interval) (hlt : s.init < s.end_) (i : Nat)
    (h : s.lastIndex < i) : s.range? i = none := by
  have hfl := first_le_last s hk hlt
  rw [range?, if_neg (by omega), if_neg (by omega), followingRange, if_pos h]

theorem range?_eq_some_iff (hk : 0 < s.interval) (hlt : s.init < s.end_) {i : Nat} {r : Range} :
    s.range? i = some r ↔ (s.init < i * s.interval + s.interval ∧ i * s.interval < s.end_) ∧
      r = ⟨max s.init (i * s.interval), min (i * s.interval + s.interval) s.end_⟩ := by
  rw [← firstIndex_le_iff s hk, ← le_lastIndex_iff s hk (by omega), ← Nat.succ_mul]
  constructor
  · intro h
    have h1 : s.firstIndex ≤ i := Nat.le_of_not_lt fun hc => by rw [range?_none_low s i hc] at h; cases h
    have h2 : i ≤ s.lastIndex :=
      Nat.le_of_not_lt fun hc => by rw [range?_none_high s hk hlt i hc] at h; cases h
    rw [range?_eq s hk hlt i h1 h2] at h
    exact ⟨⟨h1, h2⟩, (Option.some.inj h).symm⟩
  · rintro ⟨⟨h1, h2⟩, rfl⟩
    exact range?_eq s hk hlt i h1 h2

theorem range?_eq_of_end_aligned (hk : 0 < s.interval)
    (he : s.end_ % s.interval = 0) (hpos : 0 < s.end_)
    {i : Nat} (h1 : s.firstIndex ≤ i) (h2 : i ≤ s.lastIndex) :
    i * s.interval + s.interval ≤ s.end_ ∧
    s.range? i = some ⟨max s.init (i * s.interval), i * s.interval + s.interval⟩ := by
  have hf := (firstIndex_le_iff s hk).1 h1
  have hl := (le_lastIndex_iff s hk hpos).1 h2
  have hle : i * s.interval + s.interval ≤ s.end_ := by
    have := Plan.mul_div_lt_of_mod_zero (i * s.interval) s.end_ s.interval hk he hl
    rwa [Nat.mul_div_cancel _ hk] at this
  refine ⟨hle, ?_⟩
  rw [range?_eq s hk (by omega) i h1 h2, Nat.succ_mul, Nat.min_eq_left hle]

end Segmenter

/-- `l` is a list of non-empty contiguous ranges going from `a` to `b`. -/
def Tiles : List Range → Nat → Nat → Prop
  | [], _, _ => False
  | [r], a, b => r.start = a ∧ r.stop = b ∧ a < b
  | r :: r2 :: rest, a, b => r.start = a ∧ a < r.stop ∧ Tiles (r2 :: rest) r.stop b

/-- block `x` lies in one of the ranges of `l` -/
def Covers (l : List Range) (x : Nat) : Prop := ∃ r ∈ l, r.contains x = true

/-- every range has `start ≤ stop`; the order of the ranges is free -/
def WF (l : List Range) : Prop := ∀ r ∈ l, r.start ≤ r.stop

theorem Range.contains_iff (r : Range) (x : Nat) : r.contains x = true ↔ r.start ≤ x ∧ x < r.stop := by
  simp only [Range.contains, Bool.and_eq_true, decide_eq_true_eq]

theorem Covers.cons_iff (r : Range) (l : List Range) (x : Nat) :
    Covers (r :: l) x ↔ (r.start ≤ x ∧ x < r.stop) ∨ Covers l x := by
  simp [Covers, Range.contains_iff]

theorem Covers.nil_iff (x : Nat) : Covers [] x ↔ False :=
  ⟨fun ⟨_, h, _⟩ => (nomatch h), False.elim⟩

theorem Covers.cons_congr (r : Range) {l l' : List Range} (h : ∀ x, Covers l x ↔ Covers l' x) (x : Nat) :
    Covers (r :: l) x ↔ Covers (r :: l') x := by
  rw [Covers.cons_iff, Covers.cons_iff, h]

theorem mem_Ico_split {a b c x : Nat} (h1 : a ≤ b) (h2 : b ≤ c) :
    (a ≤ x ∧ x < c) ↔ (a ≤ x ∧ x < b) ∨ (b ≤ x ∧ x < c) := by omega

theorem Tiles.lt : ∀ {l a b}, Tiles l a b → a < b
  | [], _, _, h => h.elim
  | [_], _, _, h => h.2.2
  | _ :: r2 :: rest, _, _, h => Nat.lt_trans h.2.1 (Tiles.lt (l := r2 :: rest) h.2.2)

theorem Tiles.cons {r : Range} {l a b} (h1 : r.start = a) (h2 : a < r.stop) (h3 : Tiles l r.stop b) :
    Tiles (r :: l) a b := by
  cases l with
  | nil => exact h3.elim
  | cons r2 rest => exact ⟨h1, h2, h3⟩

theorem Tiles.cover : ∀ {l a b}, Tiles l a b → ∀ x, Covers l x ↔ (a ≤ x ∧ x < b)
  | [], _, _, h, _ => h.elim
  | [_], _, _, ⟨h1, h2, _⟩, x => by
    rw [Covers.cons_iff, Covers.nil_iff, or_false, h1, h2]
  | _ :: _ :: _, _, _, ⟨h1, h2, h3⟩, x => by
    rw [Covers.cons_iff, Tiles.cover h3 x, h1,
      ← mem_Ico_split (Nat.le_of_lt h2) (Nat.le_of_lt (Tiles.lt h3))]

theorem Tiles.ordered : ∀ {l a b}, Tiles l a b → l.Pairwise (fun r1 r2 => r1.stop ≤ r2.start) ∧
    (∀ r ∈ l, a ≤ r.start ∧ r.start < r.stop ∧ r.stop ≤ b)
  | [], _, _, h => h.elim
  | [_], _, _, ⟨h1, h2, h3⟩ =>
    ⟨List.pairwise_singleton _ _,
      List.forall_mem_singleton.2 ⟨Nat.le_of_eq h1.symm, h1 ▸ h2 ▸ h3, Nat.le_of_eq h2⟩⟩
  | _ :: _ :: _, _, _, ⟨h1, h2, h3⟩ =>
    have ih := Tiles.ordered h3
    ⟨List.pairwise_cons.2 ⟨fun r' hr' => (ih.2 r' hr').1, ih.1⟩,
      List.forall_mem_cons.2 ⟨⟨Nat.le_of_eq h1.symm, h1 ▸ h2, Nat.le_of_lt (Tiles.lt h3)⟩,
        fun r' hr' => ⟨Nat.le_trans (Nat.le_of_lt h2) (ih.2 r' hr').1, (ih.2 r' hr').2⟩⟩⟩

/-! ### `Range.Split` -/

/-- the chunks tile `[cs, stop)`, none is longer than `chunk`, every cut but the last is a multiple of `chunk` -/
def SplitOk (stop chunk : Nat) (l : List Range) (cs : Nat) : Prop :=
  Tiles l cs stop ∧ (∀ r ∈ l, r.size ≤ chunk) ∧ (∀ r ∈ l, r.stop = stop ∨ r.stop % chunk = 0)

theorem SplitOk.last {stop chunk cs : Nat} (h1 : cs < stop) (h3 : stop - cs ≤ chunk) :
    SplitOk stop chunk [⟨cs, stop⟩] cs :=
  ⟨⟨rfl, rfl, h1⟩, List.forall_mem_singleton.2 h3, List.forall_mem_singleton.2 (.inl rfl)⟩

theorem SplitOk.cons {stop chunk cs ce : Nat} {l : List Range} (h1 : cs < ce) (h3 : ce - cs ≤ chunk)
    (hmod : ce % chunk = 0) (t : SplitOk stop chunk l ce) : SplitOk stop chunk (⟨cs, ce⟩ :: l) cs :=
  ⟨Tiles.cons rfl h1 t.1, List.forall_mem_cons.2 ⟨h3, t.2.1⟩, List.forall_mem_cons.2 ⟨.inr hmod, t.2.2⟩⟩

/-- `stop - ce ≤ fuel * chunk`: the fuel suffices, every round moves `ce` by `chunk ≥ 1` (so fuel `stop - start` does). -/
theorem splitLoop_spec (stop chunk : Nat) (hc : 0 < chunk) :
    ∀ fuel cs ce, cs < ce → ce ≤ stop → ce - cs ≤ chunk → (ce = stop ∨ ce % chunk = 0) →
      stop - ce ≤ fuel * chunk → SplitOk stop chunk (splitLoop stop chunk fuel cs ce) cs := by
  intro fuel
  induction fuel with
  | zero =>
    intro cs ce h1 h2 h3 h4 h5
    obtain rfl : ce = stop :=
      Nat.le_antisymm h2 (Nat.le_of_sub_eq_zero (Nat.le_zero.1 (Nat.zero_mul chunk ▸ h5)))
    exact .last h1 h3
  | succ n ih =>
    intro cs ce h1 h2 h3 h4 h5
    rw [splitLoop]
    by_cases hge : ce ≥ stop
    · obtain rfl : ce = stop := Nat.le_antisymm h2 hge
      rw [if_pos hge]
      exact .last h1 h3
    · rw [if_neg hge]
      rw [Nat.succ_mul] at h5
      have hmod : ce % chunk = 0 := h4.resolve_left fun h => hge (Nat.le_of_eq h.symm)
      by_cases hov : ce + chunk > stop
      · simp only [if_pos hov]
        exact .cons h1 h3 hmod (ih ce stop (Nat.lt_of_not_le hge) (Nat.le_refl _)
          (Nat.sub_le_of_le_add (Nat.add_comm _ _ ▸ Nat.le_of_lt hov)) (.inl rfl)
          (Nat.sub_self stop ▸ Nat.zero_le _))
      · simp only [if_neg hov]
        exact .cons h1 h3 hmod (ih ce _ (Nat.lt_add_of_pos_right hc) (Nat.le_of_not_lt hov)
          (Nat.le_of_eq (Nat.add_sub_cancel_left ..)) (.inr (by rw [Nat.add_mod_right]; exact hmod))
          (Nat.sub_add_eq .. ▸ Nat.sub_le_of_le_add h5))

theorem Range.split_spec (r : Range) (chunk : Nat) (hc : 0 < chunk) (hr : r.start < r.stop) :
    SplitOk r.stop chunk (r.split chunk) r.start := by
  unfold Range.split
  split
  · rename_i hle
    exact .last hr hle
  · rename_i hgt
    -- the first cut `q` is the multiple of `chunk` in `(start, start + chunk]`
    have a := Nat.div_mul_le_self (r.start + chunk) chunk
    have b := lt_div_succ_mul (r.start + chunk) chunk hc
    rw [Nat.succ_mul] at b
    have hlt : r.start + chunk < r.stop := by omega
    simp only [sub_mod_eq]
    exact splitLoop_spec r.stop chunk hc _ r.start _ (Nat.lt_of_add_lt_add_right b)
      (Nat.le_of_lt (Nat.lt_of_le_of_lt a hlt)) (Nat.sub_le_of_le_add (Nat.add_comm _ _ ▸ a))
      (.inr (Nat.mul_mod_left _ _))
      (Nat.le_trans (Nat.sub_le_sub_left (Nat.le_of_lt (Nat.lt_of_add_lt_add_right b)) _)
        (Nat.le_mul_of_pos_right _ hc))

/-! ### `Ranges.Merged`, `MergedBuckets` -/

theorem WF.tail {r : Range} {l : List Range} (h : WF (r :: l)) : WF l :=
  fun r' hr' => h r' (List.mem_cons_of_mem _ hr')

theorem WF.head {r : Range} {l : List Range} (h : WF (r :: l)) : r.start ≤ r.stop :=
  h r List.mem_cons_self

theorem WF.cons {r : Range} {l : List Range} (h1 : r.start ≤ r.stop) (h2 : WF l) : WF (r :: l) :=
  List.forall_mem_cons.2 ⟨h1, h2⟩

theorem absorb_spec (ok : Nat → Range → Bool) (hok : ∀ e n, ok e n = true → e = n.start) :
    ∀ (l : List Range) (e : Nat), WF l →
      e ≤ (absorb ok e l).1 ∧ WF (absorb ok e l).2 ∧
      ∀ x, ((e ≤ x ∧ x < (absorb ok e l).1) ∨ Covers (absorb ok e l).2 x) ↔ Covers l x := by
  -- when nothing is absorbed the interval `[e, e)` is empty
  have stay : ∀ e (l : List Range), WF l →
      e ≤ e ∧ WF l ∧ ∀ x, ((e ≤ x ∧ x < e) ∨ Covers l x) ↔ Covers l x :=
    fun e l h => ⟨Nat.le_refl _, h,
      fun x => ⟨fun hx => hx.elim (fun h => absurd h.2 (Nat.not_lt.2 h.1)) id, .inr⟩⟩
  intro l e hwf
  fun_induction absorb ok e l
  case case1 e => exact stay e [] hwf
  case case2 e n rest h ih =>
    obtain ⟨i1, i2, i3⟩ := ih hwf.tail
    have hen : e ≤ n.stop := hok e n h ▸ hwf.head
    refine ⟨Nat.le_trans hen i1, i2, fun x => ?_⟩
    rw [Covers.cons_iff, ← i3 x, ← or_assoc, ← hok e n h, ← mem_Ico_split hen i1]
  case case3 e n rest h => exact stay e _ hwf

/-- the step of both Go loops that fuses `cur`, the adjacent `next` and what `absorb` takes after them -/
theorem absorb_fuse (ok : Nat → Range → Bool) (hok : ∀ e n, ok e n = true → e = n.start)
    {cur next : Range} {rest : List Range} (hwf : WF (cur :: next :: rest)) (heq : cur.stop = next.start) :
    WF (⟨cur.start, (absorb ok next.stop rest).1⟩ :: (absorb ok next.stop rest).2) ∧
    ∀ x, Covers (⟨cur.start, (absorb ok next.stop rest).1⟩ :: (absorb ok next.stop rest).2) x ↔
      Covers (cur :: next :: rest) x := by
  obtain ⟨a1, a2, a3⟩ := absorb_spec ok hok rest next.stop hwf.tail.tail
  have hc := hwf.head
  have hn : cur.stop ≤ next.stop := heq ▸ hwf.tail.head
  refine ⟨WF.cons (Nat.le_trans hc (Nat.le_trans hn a1)) a2, fun x => ?_⟩
  rw [Covers.cons_iff, Covers.cons_iff cur, Covers.cons_iff next, ← a3 x, ← heq, ← or_assoc, ← or_assoc,
    ← mem_Ico_split hc hn, ← mem_Ico_split (Nat.le_trans hc hn) a1]

theorem merged_spec (l : List Range) (hwf : WF l) :
    WF (merged l) ∧ ∀ x, Covers (merged l) x ↔ Covers l x := by
  fun_induction merged l with
  | case1 => exact ⟨hwf, fun _ => Iff.rfl⟩
  | case2 r => exact ⟨hwf, fun _ => Iff.rfl⟩
  | case3 cur next rest hne ih =>
    obtain ⟨i1, i2⟩ := ih hwf.tail
    exact ⟨WF.cons hwf.head i1, Covers.cons_congr cur i2⟩
  | case4 cur next rest heq p ih =>
    obtain ⟨f1, f2⟩ := absorb_fuse (fun e n => e == n.start) (fun e n h => by simpa using h) hwf
      (Decidable.of_not_not heq)
    obtain ⟨i1, i2⟩ := ih f1.tail
    exact ⟨WF.cons f1.head i1, fun x => (Covers.cons_congr _ i2 x).trans (f2 x)⟩

theorem mergedBuckets_spec (m : Nat) (l : List Range) (hwf : WF l) :
    WF (mergedBuckets m l) ∧ ∀ x, Covers (mergedBuckets m l) x ↔ Covers l x := by
  fun_induction mergedBuckets m l with
  | case1 => exact ⟨hwf, fun _ => Iff.rfl⟩
  | case2 r => exact ⟨hwf, fun _ => Iff.rfl⟩
  | case3 cur next rest hge ih | case4 cur next rest hge hne ih =>
    obtain ⟨i1, i2⟩ := ih hwf.tail
    exact ⟨WF.cons hwf.head i1, Covers.cons_congr cur i2⟩
  | case5 cur next rest hge heq p ih =>
    obtain ⟨f1, f2⟩ := absorb_fuse (fun e n => e == n.start && !(n.stop - cur.start > m))
      (fun e n h => by simp at h; exact h.1) hwf (by omega)
    obtain ⟨i1, i2⟩ := ih f1.tail
    exact ⟨WF.cons f1.head i1, fun x => (Covers.cons_congr _ i2 x).trans (f2 x)⟩

end SV
