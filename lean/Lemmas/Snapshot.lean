import Model.Snapshot
import Lemmas.Wire
import Lemmas.Filename
/-!
Lemmas for C10 about `Model/Snapshot.lean`: reading the object store after a write, and what `Save` writes (the
marshaller cannot fail, `marshalVT_eq`).  Imports `Lemmas.Wire` and `Lemmas.Filename` also on behalf of `Props/C10`.
-/
namespace SV.Snapshot
open SV.Wire SV.Filename

theorem read_write_same (fs : Files) (n : Name) (c : Bytes) : (fs.write n c).read n = some c := by
  fun_induction Files.write fs n c with
  | case1 | case2 => simp only [Files.read, if_true]
  | case3 _ _ _ _ _ h ih => simp only [Files.read, if_neg h, ih]

theorem read_write_other (fs : Files) (n m : Name) (c : Bytes) (h : m ≠ n) :
    (fs.write n c).read m = fs.read m := by
  fun_induction Files.write fs n c with
  | case1 | case2 => simp only [Files.read, if_neg (Ne.symm h)]
  | case3 _ _ _ _ _ _ ih => simp only [Files.read, ih h]

theorem saveFull_eq (fs : Files) (init stop : Nat) (kv : KV) :
    saveFull fs init stop kv
      = .ok (fullName init stop, fs.write (fullName init stop) (vtEncStoreData kv [])) := by
  simp only [saveFull, marshalVT_eq]

theorem savePartial_eq (fs : Files) (init stop : Nat) (kv : KV) (dp : List Bytes) :
    savePartial fs init stop kv dp
      = .ok (partialName init stop, fs.write (partialName init stop) (vtEncStoreData kv dp)) := by
  simp only [savePartial, marshalVT_eq]

end SV.Snapshot
