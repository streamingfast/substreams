/-!
Layer A of C02: the algebra behind "squash = sequential", per key, at the level of typed values.

A policy is described, for one key, by
  * `F`   the typed value a full store holds for the key (what the property compares),
  * `P`   what a partial store holds for it (for `set_sum`: the value *and* whether a `set` happened),
  * `updF w` / `updP w`  the effect of one write `w` on either side,
  * `mrg x y`            the merge of a partial-side state `y` into a full-side state `x`,
and the two laws `mrg_none` and `hom` (merging then writing = writing then merging).  Deletions
(`delete_prefix` hitting the key) reset either side to "absent"; the partial side also remembers that
it happened.  From the two laws alone: building a store by merging the partial states of consecutive
segments equals applying all events sequentially, for every event list and every cut.  Core Lean only.
-/
namespace SV

structure KeyAlg (F P W : Type) where
  updF : W → Option F → Option F
  updP : W → Option P → Option P
  mrg  : Option F → Option P → Option F
  mrg_none : ∀ x, mrg x none = x
  hom  : ∀ w x y, updF w (mrg x y) = mrg x (updP w y)

/-- what happens to one key during a block: a write, or a `delete_prefix` that matches the key -/
inductive Ev (W : Type)
  | write (w : W)
  | del
deriving Repr

namespace KeyAlg
variable {F P W : Type} (A : KeyAlg F P W)

def stepF (x : Option F) : Ev W → Option F
  | .write w => A.updF w x
  | .del => none

/-- partial side: (a deletion happened since the segment started, state) -/
def stepP (s : Bool × Option P) : Ev W → Bool × Option P
  | .write w => (s.1, A.updP w s.2)
  | .del => (true, none)

def runF (es : List (Ev W)) (x : Option F) : Option F := es.foldl A.stepF x
def runP (es : List (Ev W)) (s : Bool × Option P) : Bool × Option P := es.foldl A.stepP s

/-- `Merge`: the partial's deleted prefixes are applied first, then its value is merged -/
def mrgD (x : Option F) (s : Bool × Option P) : Option F := A.mrg (if s.1 then none else x) s.2

theorem step_hom (x : Option F) (s : Bool × Option P) (e : Ev W) :
    A.stepF (A.mrgD x s) e = A.mrgD x (A.stepP s e) := by
  cases e with
  | write w => exact A.hom w _ _
  | del => simp only [stepF, stepP, mrgD, A.mrg_none, ↓reduceIte]

theorem run_hom (es : List (Ev W)) : ∀ (x : Option F) (s : Bool × Option P),
    A.runF es (A.mrgD x s) = A.mrgD x (A.runP es s) := by
  induction es with
  | nil => intro x s; rfl
  | cons e rest ih =>
    intro x s
    simp only [runF, runP, List.foldl_cons] at ih ⊢
    rw [A.step_hom, ih]

/-- one segment: continuing sequentially from `x` = merging into `x` the partial built from scratch -/
theorem segment (es : List (Ev W)) (x : Option F) :
    A.runF es x = A.mrgD x (A.runP es (false, none)) := by
  have := A.run_hom es x (false, none)
  simpa [mrgD, A.mrg_none] using this

/-- the squashed value: merge, in order, the partial state of every segment -/
def squash (segs : List (List (Ev W))) (x : Option F) : Option F :=
  segs.foldl (fun x seg => A.mrgD x (A.runP seg (false, none))) x

/-- **Squash = sequential**, for every list of segments (= every cut of every event list). -/
theorem squash_eq_seq (segs : List (List (Ev W))) : ∀ x : Option F,
    A.squash segs x = A.runF segs.flatten x := by
  induction segs with
  | nil => intro x; rfl
  | cons seg rest ih =>
    intro x
    simp only [squash, List.foldl_cons, List.flatten_cons] at ih ⊢
    rw [ih, ← A.segment]
    simp [runF, List.foldl_append]

end KeyAlg

/-- `set`: last write wins -/
def algSet (V : Type) : KeyAlg V V V where
  updF v _ := some v
  updP v _ := some v
  mrg x y := match y with | some b => some b | none => x
  mrg_none _ := rfl
  hom _ _ _ := rfl

/-- `set_if_not_exists`: first write wins -/
def algSine (V : Type) : KeyAlg V V V where
  updF v x := match x with | some a => some a | none => some v
  updP v x := match x with | some a => some a | none => some v
  mrg x y := match x with | some a => some a | none => y
  mrg_none x := by cases x <;> rfl
  hom v x y := by cases x <;> cases y <;> rfl

/-- `append`: concatenation (limits not hit) -/
def algAppend (α : Type) : KeyAlg (List α) (List α) (List α) where
  updF v x := match x with | some a => some (a ++ v) | none => some v
  updP v x := match x with | some a => some (a ++ v) | none => some v
  mrg x y := match y with
    | none => x
    | some b => match x with | some a => some (a ++ b) | none => some b
  mrg_none _ := rfl
  hom v x y := by cases x <;> cases y <;> simp [List.append_assoc]

/-- what `add`, `min`, `max` and `set_sum` need of a value type: an associative combination -/
structure Combine (M : Type) where
  op    : M → M → M
  assoc : ∀ a b c, op (op a b) c = op a (op b c)

/-- `add` / `min` / `max`: `op` = addition / minimum / maximum.  An absent key is "no value yet": the
first write stores the operand, the merge into an absent key stores the partial's value (for `add` the
Go code computes `0 + v`, which is `v`: `C02.zero_add_int`, `C02.wrap64_of_range`). -/
def algCombine {M : Type} (C : Combine M) : KeyAlg M M M where
  updF v x := match x with | some a => some (C.op a v) | none => some v
  updP v x := match x with | some a => some (C.op a v) | none => some v
  mrg x y := match y with
    | none => x
    | some b => match x with | some a => some (C.op a b) | none => some b
  mrg_none _ := rfl
  hom v x y := by cases x <;> cases y <;> simp [C.assoc]

inductive SS (M : Type) | set (v : M) | sum (v : M)

/-- `set_sum`: a full store's typed value is the number; a partial store also knows whether a `set`
happened in its segment (its tag `set:`): then its value replaces the full store's, else it is added. -/
def algSetSum {M : Type} (C : Combine M) : KeyAlg M (Bool × M) (SS M) where
  updF w x := match w with
    | .set v => some v
    | .sum v => match x with | some a => some (C.op a v) | none => some v
  updP w y := match w with
    | .set v => some (true, v)
    | .sum v => match y with | some (t, a) => some (t, C.op a v) | none => some (false, v)
  mrg x y := match y with
    | none => x
    | some (true, b) => some b
    | some (false, b) => match x with | some a => some (C.op a b) | none => some b
  mrg_none _ := rfl
  hom w x y := by
    cases w with
    | set v => cases y <;> rfl
    | sum v =>
      cases y with
      | none => cases x <;> rfl
      | some tb =>
        obtain ⟨t, b⟩ := tb
        cases t <;> cases x <;> simp [C.assoc]

end SV
