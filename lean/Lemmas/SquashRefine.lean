import Lemmas.History
import Lemmas.Squash
import Lemmas.Codec
/-!
Layer B of C02: the byte-level model (`flush`, `Partial.execBlock`, `merge` of Model/Store.lean,
Model/Merge.lean with the value semantics `stdSem` of Model/Policy.lean) refines the per-key algebras
of Lemmas/Squash.lean.

The model enters through three per-key characterisations: `flush_key`/`seqRun_key` (a block, a run of
blocks: the fold of `keyEffect` over the sorted logs), `segRun_key` (a segment on a partial store: the
same fold, and exactly the prefixes of its `deletePrefix` operations remembered) and `merge_key`
(`mergeLook`, through `mergeKey_eq`).  `seq_squash_key` puts them together for any policy.  `Refine` is
what a policy provides (relations bytes ↔ typed value, three commutation laws) for
`Refine.model_squash_eq_seq`; the rest of the file are its instances: the byte-exact policies
(`Refine.ofBytes`), `add`/`min`/`max` (`refCombineR`), `set_sum` (`refSetSumR`).  Core Lean only.
-/
namespace SV

def foldOpt {α β : Type} (f : α → β → Option α) : α → List β → Option α
  | x, [] => some x
  | x, b :: rest =>
    match f x b with
    | none => none
    | some x' => foldOpt f x' rest

theorem foldOpt_append {α β : Type} (f : α → β → Option α) (l1 l2 : List β) (x : α) :
    foldOpt f x (l1 ++ l2) = (foldOpt f x l1).bind (fun y => foldOpt f y l2) := by
  fun_induction foldOpt f x l1 with
  | case1 x => rfl
  | case2 x b rest h => simp only [List.cons_append, foldOpt, h, Option.bind_none]
  | case3 x b rest x' h ih => simp only [List.cons_append, foldOpt, h]; exact ih

/-! ### `flushOp` (one iteration of the loop of `Flush`), per key -/

/-- `none`: `sem` fails and `Flush` errors -/
def viaSem (cfg : Cfg) (sem : Sem) (kind : OpKind) (k : Bytes) (cur : Option Bytes) (op : Op) :
    Option (Option Bytes) :=
  if op.key = k then
    match sem kind (if isSetSum kind then cur else stripTag cfg cur) op.val with
    | .ok nv => some (some nv)
    | .error _ => none
  else some cur

/-- the content of key `k` after one iteration of the loop of `Flush`, from its content `cur` before
(outer `none`: the value computation fails) -/
def keyEffect (cfg : Cfg) (sem : Sem) (k : Bytes) (cur : Option Bytes) (op : Op) : Option (Option Bytes) :=
  match op.kind with
  | .deletePrefix => some (if isPrefix op.key k then none else cur)
  | .set => some (if op.key = k then some op.val else cur)
  | .setIfNotExists =>
    some (if op.key = k then (match cur with | some c => some c | none => some op.val) else cur)
  | kind => viaSem cfg sem kind k cur op

theorem keyEffect_other {cfg : Cfg} {sem : Sem} {k : Bytes} {cur : Option Bytes} {op : Op}
    (hk : op.kind ≠ .deletePrefix) (hkey : op.key ≠ k) : keyEffect cfg sem k cur op = some cur := by
  unfold keyEffect
  cases h : op.kind <;> simp only [viaSem, hkey, ↓reduceIte] <;> exact absurd h hk

theorem keyEffect_delete {cfg : Cfg} {sem : Sem} {k : Bytes} {cur : Option Bytes} {op : Op}
    (hk : op.kind = .deletePrefix) :
    keyEffect cfg sem k cur op = some (if isPrefix op.key k then none else cur) := by
  unfold keyEffect; simp only [hk]

theorem getAt_eq_look {f : Content} {s : Store} {b ord : Nat} (h : FInv f s b) (hb : b ≤ ord) (k : Bytes) :
    s.getAt ord k = look s.kv k := by
  unfold Store.getAt
  rw [h.getLast]
  cases hr : s.deltas.reverse with
  | nil => rfl
  | cons d rest =>
    have hm : d ∈ s.deltas := by
      have : d ∈ s.deltas.reverse := by rw [hr]; exact List.mem_cons_self
      simpa using this
    have hd := h.bounded d hm
    unfold walkBack
    simp only [show d.ord ≤ ord by omega, ↓reduceIte]

theorem setRaw_look {cfg : Cfg} {f : Content} {s s' : Store} {b ord : Nat} {k v : Bytes}
    (h : FInv f s b) (hb : b ≤ ord) (hp : setRaw cfg s ord k v = .ok s') :
    ∀ k', look s'.kv k' = if k = k' then some v else look s.kv k' := by
  unfold setRaw at hp
  by_cases c1 : isPrefix reservedPfx k = true
  · rw [if_pos c1] at hp; cases hp
  by_cases c2 : v.length > cfg.itemLimit
  · rw [if_neg c1, if_pos c2] at hp; cases hp
  by_cases c3 : k = []
  · rw [if_neg c1, if_neg c2, if_pos c3] at hp; cases hp
  rw [if_neg c1, if_neg c2, if_neg c3] at hp
  rw [h.getLast k] at hp
  intro k'
  split at hp
  · rename_i old hlook
    have := pushDelta_inv (d := ⟨.update, ord, k, old, v⟩) h (by simpa [WFd] using hlook) hb hp
    rw [this.2.2.2]; simp only [stepF]
  · rename_i hlook
    have := pushDelta_inv (d := ⟨.create, ord, k, [], v⟩) h (by simpa [WFd] using hlook) hb hp
    rw [this.2.2.2]; simp only [stepF]

theorem setIfNotExistsRaw_look {cfg : Cfg} {f : Content} {s s' : Store} {b ord : Nat} {k v : Bytes}
    (h : FInv f s b) (hb : b ≤ ord) (hp : setIfNotExistsRaw cfg s ord k v = .ok s') :
    ∀ k', look s'.kv k' =
      if k = k' then (match look s.kv k' with | some c => some c | none => some v) else look s.kv k' := by
  unfold setIfNotExistsRaw at hp
  rw [h.getLast k] at hp
  intro k'
  split at hp
  · rename_i old hlook
    injection hp with hp; subst hp
    by_cases hk : k = k'
    · subst hk; simp only [↓reduceIte, hlook]
    · simp only [hk, ↓reduceIte]
  · rename_i hlook
    have := pushDelta_inv (d := ⟨.create, ord, k, [], v⟩) h (by simpa [WFd] using hlook) hb hp
    rw [this.2.2.2]; simp only [stepF]
    by_cases hk : k = k'
    · subst hk; simp only [↓reduceIte, hlook]
    · simp only [hk, ↓reduceIte]

theorem deleteFold_look {cfg : Cfg} {f : Content} {ord : Nat} : ∀ (L : KV) (s s' : Store),
    FInv f s ord → (∀ p ∈ L, look s.kv p.1 = some p.2) → (L.map (·.1)).Nodup →
    L.foldlM (fun s p => pushDelta cfg s ⟨.delete, ord, p.1, p.2, []⟩) s = .ok s' →
    ∀ k, look s'.kv k = if k ∈ L.map (·.1) then none else look s.kv k := by
  intro L
  induction L with
  | nil => intro s s' h _ _ hp k; simp [List.foldlM] at hp; cases hp; simp
  | cons p rest ih =>
    intro s s' h hl hnd hp k
    obtain ⟨s1, hpd, hp⟩ := foldlM_cons_of_ok hp
    have hw : WFd (look s.kv) ⟨.delete, ord, p.1, p.2, []⟩ := by
      simpa [WFd] using hl p List.mem_cons_self
    obtain ⟨i1, _, _, i4⟩ := pushDelta_inv h hw (Nat.le_refl _) hpd
    simp only [List.map_cons, List.nodup_cons] at hnd
    have hl' : ∀ q ∈ rest, look s1.kv q.1 = some q.2 := by
      intro q hq
      rw [i4, stepF_ne]
      · exact hl q (List.mem_cons_of_mem _ hq)
      · intro hc
        exact hnd.1 (List.mem_map.2 ⟨q, hq, hc.symm⟩)
    rw [ih s1 s' i1 hl' hnd.2 hp k, i4, List.map_cons]
    by_cases h1 : p.1 = k
    · subst h1
      rw [if_pos List.mem_cons_self]
      split
      · rfl
      · simp only [stepF, ↓reduceIte]
    · have h1' : ¬ k = p.1 := fun hc => h1 hc.symm
      rw [stepF_ne _ _ _ h1]
      simp only [List.mem_cons, h1', false_or]

theorem deletePrefixRaw_look {cfg : Cfg} {f : Content} {s s' : Store} {b ord : Nat} {pfx : Bytes}
    (h : FInv f s b) (hb : b ≤ ord) (hp : deletePrefixRaw cfg s ord pfx = .ok s') :
    ∀ k, look s'.kv k = if isPrefix pfx k then none else look s.kv k := by
  unfold deletePrefixRaw at hp
  have hperm := sortByKey_perm (s.kv.filter (fun p => isPrefix pfx p.1))
  intro k
  have hl : ∀ p ∈ sortByKey (s.kv.filter (fun p => isPrefix pfx p.1)), look s.kv p.1 = some p.2 := by
    intro p hp'
    have : p ∈ s.kv := (List.mem_filter.1 ((hperm.mem_iff).1 hp')).1
    exact look_of_mem h.nodup this
  have hnd : ((sortByKey (s.kv.filter (fun p => isPrefix pfx p.1))).map (·.1)).Nodup := by
    have h1 : ((s.kv.filter (fun p => isPrefix pfx p.1)).map (·.1)).Nodup :=
      List.Nodup.sublist (List.Sublist.map _ List.filter_sublist) h.nodup
    exact ((hperm.map (·.1)).nodup_iff).2 h1
  rw [deleteFold_look _ s s' (h.mono hb) hl hnd hp k]
  by_cases hpre : isPrefix pfx k = true
  · simp only [hpre, ↓reduceIte]
    split
    · rfl
    · rename_i hnm
      cases hlk : look s.kv k with
      | none => rfl
      | some v =>
        exfalso; apply hnm
        have hm : (k, v) ∈ s.kv := mem_keys_of_look hlk
        have : (k, v) ∈ sortByKey (s.kv.filter (fun p => isPrefix pfx p.1)) :=
          (hperm.mem_iff).2 (List.mem_filter.2 ⟨hm, hpre⟩)
        exact List.mem_map.2 ⟨(k, v), this, rfl⟩
  · simp only [hpre, Bool.false_eq_true, ↓reduceIte]
    split
    · rename_i hm
      obtain ⟨q, hq, hqk⟩ := List.mem_map.1 hm
      have := (List.mem_filter.1 ((hperm.mem_iff).1 hq)).2
      rw [hqk] at this
      exact absurd this hpre
    · rfl

theorem viaSem_look {cfg : Cfg} {sem : Sem} {f : Content} {s s' : Store} {b : Nat} {op : Op} {kind : OpKind}
    (h : FInv f s b) (hb : b ≤ op.ord)
    (hp : (match sem kind (if isSetSum kind = true then s.getAt op.ord op.key
              else stripTag cfg (s.getAt op.ord op.key)) op.val with
            | .error e => Except.error e
            | .ok nv => setRaw cfg s op.ord op.key nv) = .ok s') :
    ∀ k, viaSem cfg sem kind k (look s.kv k) op = some (look s'.kv k) := by
  intro k
  rw [getAt_eq_look h hb] at hp
  unfold viaSem
  by_cases hk : op.key = k
  · subst hk
    simp only [↓reduceIte]
    split at hp
    · simp at hp
    · rename_i nv hsem
      rw [hsem]
      simp only [setRaw_look h hb hp op.key, ↓reduceIte]
  · simp only [hk, ↓reduceIte]
    split at hp
    · simp at hp
    · rw [setRaw_look h hb hp k]; simp only [hk, ↓reduceIte]

theorem flushOp_key {cfg : Cfg} {sem : Sem} {f : Content} {s s' : Store} {b : Nat} {op : Op}
    (h : FInv f s b) (hb : b ≤ op.ord) (hp : flushOp cfg sem s op = .ok s') :
    ∀ k, keyEffect cfg sem k (look s.kv k) op = some (look s'.kv k) := by
  unfold flushOp at hp
  split at hp
  · simp at hp
  · rename_i s1 hbody
    injection hp with hp; subst hp
    show ∀ k, keyEffect cfg sem k (look s.kv k) op = some (look s1.kv k)
    intro k
    unfold flushOpBody at hbody
    unfold keyEffect
    cases hk : op.kind <;> simp only [hk] at hbody ⊢
    case set => rw [setRaw_look h hb hbody k]
    case setIfNotExists => rw [setIfNotExistsRaw_look h hb hbody k]
    case deletePrefix => rw [deletePrefixRaw_look h hb hbody k]
    all_goals exact viaSem_look h hb hbody k

theorem flushFold_key {cfg : Cfg} {sem : Sem} {f : Content} : ∀ (ops : List Op) (s s' : Store) (b : Nat),
    FInv f s b → OrdSorted ops → (∀ o ∈ ops, b ≤ o.ord) →
    ops.foldlM (flushOp cfg sem) s = .ok s' →
    ∀ k, foldOpt (keyEffect cfg sem k) (look s.kv k) ops = some (look s'.kv k) := by
  intro ops
  induction ops with
  | nil => intro s s' b h _ _ hp k; simp [List.foldlM] at hp; cases hp; rfl
  | cons o rest ih =>
    intro s s' b h hs hb hp k
    obtain ⟨s1, hfo, hp⟩ := foldlM_cons_of_ok hp
    unfold OrdSorted at hs
    rw [List.pairwise_cons] at hs
    obtain ⟨i1, _⟩ := flushOp_inv h (hb o List.mem_cons_self) hfo
    simp only [foldOpt, flushOp_key h (hb o List.mem_cons_self) hfo k]
    exact ih s1 s' o.ord i1 hs.2 hs.1 hp k

theorem flush_key {cfg : Cfg} {sem : Sem} {s s' : Store} (h : Clean s) (hp : flush cfg sem s = .ok s') :
    ∀ k, foldOpt (keyEffect cfg sem k) (look s.kv k) (sortOps s.ops) = some (look s'.kv k) :=
  -- `FInv` does not look at the log, which `flush` replaces by the sorted one
  fun k => flushFold_key (sortOps s.ops) { s with ops := sortOps s.ops } s' 0 { h.finv with } (sortOps_sorted _)
    (fun _ _ => Nat.zero_le _) hp k

theorem execBlock_key {cfg : Cfg} {sem : Sem} {pre post : Store} {calls : List Op} (h : Clean pre)
    (hp : execBlock cfg sem pre calls = .ok post) :
    ∀ k, foldOpt (keyEffect cfg sem k) (look pre.kv k) (sortOps (pre.ops ++ calls)) = some (look post.kv k) := by
  unfold execBlock at hp
  obtain ⟨a, _, _, d⟩ := record_fold_fields calls pre
  intro k
  have := flush_key (h.record_fold calls) hp k
  rw [a, d] at this
  exact this

/-- sequential execution of blocks on one store: per block `NewCall` (Reset), the calls, `Flush` -/
def seqRun (cfg : Cfg) (sem : Sem) : Store → List (List Op) → Except SErr Store
  | s, [] => .ok s
  | s, calls :: rest =>
    match execBlock cfg sem (reset s) calls with
    | .error e => .error e
    | .ok s' => seqRun cfg sem s' rest

theorem seqRun_key {cfg : Cfg} {sem : Sem} : ∀ (blocks : List (List Op)) (s s' : Store),
    SInv s → seqRun cfg sem s blocks = .ok s' →
    SInv s' ∧ ∀ k, foldOpt (keyEffect cfg sem k) (look s.kv k) (blocks.flatMap sortOps) = some (look s'.kv k) := by
  intro blocks s s' h hr
  fun_induction seqRun cfg sem s blocks with
  | case1 s => cases hr; exact ⟨h, fun _ => rfl⟩
  | case2 s calls rest e hb => cases hr
  | case3 s calls rest s1 hb ih =>
    obtain ⟨b, i1, _⟩ := execBlock_inv h.reset hb
    obtain ⟨j1, j2⟩ := ih i1.sinv hr
    refine ⟨j1, fun k => ?_⟩
    have e1 : foldOpt (keyEffect cfg sem k) (look s.kv k) (sortOps calls) = some (look s1.kv k) :=
      execBlock_key h.reset hb k
    rw [List.flatMap_cons, foldOpt_append, e1]
    exact j2 k

theorem partial_execBlock_ok {cfg : Cfg} {sem : Sem} {p p' : Partial} {calls : List Op}
    (h : Partial.execBlock cfg sem p calls = .ok p') :
    execBlock cfg sem p.store calls = .ok p'.store ∧
      p'.deletedPrefixes = calls.foldl addPfx p.deletedPrefixes := by
  unfold Partial.execBlock at h
  rw [partial_record_fold] at h
  dsimp only at h
  unfold execBlock
  cases hf : flush cfg sem (calls.foldl record p.store) with
  | error e => rw [hf] at h; cases h
  | ok s => rw [hf] at h; cases h; exact ⟨rfl, rfl⟩

/-- one segment on a partial store: per block Reset, the calls (prefixes remembered), `Flush` -/
def segRun (cfg : Cfg) (sem : Sem) : Partial → List (List Op) → Except SErr Partial
  | p, [] => .ok p
  | p, calls :: rest =>
    match Partial.execBlock cfg sem ⟨reset p.store, p.deletedPrefixes⟩ calls with
    | .error e => .error e
    | .ok p' => segRun cfg sem p' rest

theorem segRun_seqRun {cfg : Cfg} {sem : Sem} (blocks : List (List Op)) (p p' : Partial)
    (hr : segRun cfg sem p blocks = .ok p') :
    seqRun cfg sem p.store blocks = .ok p'.store ∧
      p'.deletedPrefixes = blocks.flatten.foldl addPfx p.deletedPrefixes := by
  fun_induction segRun cfg sem p blocks with
  | case1 p => cases hr; exact ⟨rfl, rfl⟩
  | case2 p calls rest e hb => cases hr
  | case3 p calls rest p1 hb ih =>
    obtain ⟨h1, h2⟩ := partial_execBlock_ok hb
    obtain ⟨i1, i2⟩ := ih hr
    refine ⟨?_, by rw [i2, h2, List.flatten_cons, List.foldl_append]⟩
    unfold seqRun
    rw [show execBlock cfg sem (reset p.store) calls = .ok p1.store from h1]
    exact i1

theorem segRun_key {cfg : Cfg} {sem : Sem} : ∀ (blocks : List (List Op)) (p p' : Partial),
    SInv p.store → segRun cfg sem p blocks = .ok p' →
    SInv p'.store ∧
    (∀ k, foldOpt (keyEffect cfg sem k) (look p.store.kv k) (blocks.flatMap sortOps) = some (look p'.store.kv k)) ∧
    (∀ x, x ∈ p'.deletedPrefixes ↔
      (x ∈ p.deletedPrefixes ∨ ∃ o ∈ blocks.flatMap sortOps, o.kind = .deletePrefix ∧ o.key = x)) := by
  intro blocks p p' h hr
  obtain ⟨h1, h2⟩ := segRun_seqRun blocks p p' hr
  obtain ⟨j1, j2⟩ := seqRun_key blocks p.store p'.store h h1
  refine ⟨j1, j2, fun x => ?_⟩
  have hmem : ∀ o, o ∈ blocks.flatMap sortOps ↔ o ∈ blocks.flatten := fun o => by
    simp only [List.mem_flatMap, List.mem_flatten, (sortOps_perm _).mem_iff]
  rw [h2, mem_foldl_addPfx]
  simp only [hmem]

/-! ### `merge`, per key -/

/-- what `mergeKey` does to the full store for its key -/
inductive MAct
  | keep                 -- the store is left as it is
  | put (v : Bytes)      -- `setKV`
  | putNew (v : Bytes)   -- `setNewKV`

def MAct.apply (s : Store) (k : Bytes) : MAct → Store
  | .keep => s
  | .put v => setKV s k v
  | .putNew v => setNewKV s k v

/-- `mergeKey` as a function of the two values of the key, with no store: the per-key statements (`mergeVal`,
`mergeLook`, `squashKey`) need that, and `mergeKey` threads the store through every branch, so its branches
are repeated here with an `MAct` where it updates the store (`mergeKey_eq`). -/
def mergeGen (cfg : Cfg) (cur : Option Bytes) (v : Bytes) : Option (Except SErr MAct) :=
  match cfg.policy with
  | .set => some (.ok (.put v))
  | .setIfNotExists => some (.ok (if cur.isSome then .keep else .putNew v))
  | .append =>
    match cur with
    | some prev =>
      if cfg.appendLimit > 0 ∧ prev.length + v.length ≥ cfg.appendLimit then some (.error .appendLimit)
      else some (.ok (.put (prev ++ v)))
    | none => some (.ok (.putNew v))
  | .add =>
    match cfg.vt with
    | .int64 => some (.ok (.put (renderInt (wrap64 (foundOrZeroInt64 cur + foundOrZeroInt64 (some v))))))
    | .float64 => some (.ok (.put (renderF64 (foundOrZeroF64 cur + foundOrZeroF64 (some v)))))
    | .bigint =>
      match foundOrZeroBigInt cur, foundOrZeroBigInt (some v) with
      | some a, some b => some (.ok (.put (renderInt (a + b))))
      | _, _ => none
    | .bigdecimal =>
      match foundOrZeroDec cur, foundOrZeroDec (some v) with
      | some a, some b => some (.ok (.put (a.add b).render))
      | _, _ => none
    | .bytes => some (.error .badValue)
  | .setSum =>
    if isPrefix pfxSet v then
      match cfg.vt with
      | .float64 =>
        match parseF64 (v.drop 4) with
        | some f => some (.ok (.put (pfxSum ++ renderF64 f)))
        | none => none
      | .bytes => some (.ok .keep)
      | _ => some (.ok (.put (pfxSum ++ v.drop 4)))
    else
      match cfg.vt with
      | .int64 =>
        let a := match cur with | none => 0 | some c => (parseInt64 (c.drop 4)).getD 0
        let b := (parseInt64 (v.drop 4)).getD 0
        some (.ok (.put (pfxSum ++ renderInt (wrap64 (a + b)))))
      | .float64 =>
        let a := match cur with | none => 0.0 | some c => (parseF64 (c.drop 4)).getD 0.0
        let b := (parseF64 (v.drop 4)).getD 0.0
        some (.ok (.put (pfxSum ++ renderF64 (a + b))))
      | .bigint =>
        match (match cur with | none => some 0 | some c => parseInt (c.drop 4)), parseInt (v.drop 4) with
        | some a, some b => some (.ok (.put (pfxSum ++ renderInt (a + b))))
        | _, _ => none
      | .bigdecimal =>
        match foundOrZeroPrefixedDec cur, foundOrZeroPrefixedDec (some v) with
        | some a, some b => some (.ok (.put (pfxSum ++ (a.add b).render)))
        | _, _ => none
      | .bytes => some (.ok .keep)
  | .max | .min =>
    let isMax := cfg.policy = .max
    match cfg.vt with
    | .int64 =>
      let v1 := foundOrZeroInt64 (some v)
      match cur with
      | none => some (.ok (.putNew (renderInt v1)))
      | some c =>
        let v0 := foundOrZeroInt64 (some c)
        let r := if isMax then (if v0 ≥ v1 then v0 else v1) else (if v0 ≤ v1 then v0 else v1)
        some (.ok (.put (renderInt r)))
    | .float64 =>
      let v1 := foundOrZeroF64 (some v)
      match cur with
      | none => some (.ok (.putNew (renderF64 v1)))
      | some c =>
        let v0 := foundOrZeroF64 (some c)
        let r := if isMax then (if v0 < v1 then v1 else v0) else (if v0 < v1 then v0 else v1)
        some (.ok (.put (renderF64 r)))
    | .bigint =>
      match foundOrZeroBigInt (some v) with
      | none => none
      | some v1 =>
        match cur with
        | none => some (.ok (.putNew (renderInt v1)))
        | some c =>
          match foundOrZeroBigInt (some c) with
          | none => none
          | some v0 =>
            let r := if isMax then (if v0 ≤ v1 then v1 else v0) else (if v0 ≤ v1 then v0 else v1)
            some (.ok (.put (renderInt r)))
    | .bigdecimal =>
      match foundOrZeroDec (some v) with
      | none => none
      | some v1 =>
        match cur with
        | none => some (.ok (.putNew v1.render))
        | some c =>
          match foundOrZeroDec (some c) with
          | none => none
          | some v0 =>
            let le := v0.cmp v1 != .gt
            let r := if isMax then (if le then v1 else v0) else (if le then v0 else v1)
            some (.ok (.put r.render))
    | .bytes => some (.error .badValue)
  | .unset => some (.error .badValue)

/-- lift of `MAct.apply` over the two failure layers (panic, error) -/
def liftAct (s : Store) (k : Bytes) : Option (Except SErr MAct) → Option (Except SErr Store)
  | none => none
  | some (.error e) => some (.error e)
  | some (.ok a) => some (.ok (a.apply s k))

/-- `mergeKey` only looks at the full store's value of its key, and only writes that key -/
theorem mergeKey_eq (cfg : Cfg) (s : Store) (k v : Bytes) :
    mergeKey cfg s k v = liftAct s k (mergeGen cfg (look s.kv k) v) := by
  obtain ⟨pol, vt, lim, a, b⟩ := cfg
  -- once policy and value type are constructors both sides compute; a branch is closed by `rfl` as soon as
  -- the values its remaining matches look at are constructors too
  cases pol
  case unset | set => rfl
  case setIfNotExists => dsimp only [mergeKey, mergeGen]; cases look s.kv k <;> rfl
  case append =>
    dsimp only [mergeKey, mergeGen]
    cases look s.kv k
    · rfl
    · dsimp only; split <;> rfl
  case add =>
    cases vt
    case bigint =>
      dsimp only [mergeKey, mergeGen]
      cases foundOrZeroBigInt (look s.kv k) <;> cases foundOrZeroBigInt (some v) <;> rfl
    case bigdecimal =>
      dsimp only [mergeKey, mergeGen]
      cases foundOrZeroDec (look s.kv k) <;> cases foundOrZeroDec (some v) <;> rfl
    all_goals rfl
  case setSum =>
    cases vt <;> dsimp only [mergeKey, mergeGen] <;> cases isPrefix pfxSet v
    case float64.true => cases parseF64 (v.drop 4) <;> rfl
    case bigint.false =>
      cases parseInt (v.drop 4) <;> cases look s.kv k <;> try rfl
      all_goals dsimp only; cases parseInt _ <;> rfl
    case bigdecimal.false =>
      cases foundOrZeroPrefixedDec (look s.kv k) <;> cases foundOrZeroPrefixedDec (some v) <;> rfl
    all_goals rfl
  case max | min =>
    cases vt
    case bytes => rfl
    case int64 | float64 => dsimp only [mergeKey, mergeGen]; cases look s.kv k <;> rfl
    case bigint =>
      dsimp only [mergeKey, mergeGen]
      cases foundOrZeroBigInt (some v)
      · rfl
      · cases look s.kv k
        · rfl
        · dsimp only; cases foundOrZeroBigInt _ <;> rfl
    case bigdecimal =>
      dsimp only [mergeKey, mergeGen]
      cases foundOrZeroDec (some v)
      · rfl
      · cases look s.kv k
        · rfl
        · dsimp only; cases foundOrZeroDec _ <;> rfl

/-- `none`: `Merge` errors or panics -/
def mergeVal (cfg : Cfg) (cur : Option Bytes) (v : Bytes) : Option (Option Bytes) :=
  match mergeGen cfg cur v with
  | some (.ok .keep) => some cur
  | some (.ok (.put x)) => some (some x)
  | some (.ok (.putNew x)) => some (some x)
  | _ => none

/-- the full store's value of a key after `Merge`: `cur` its value after the partial's prefix deletions,
`pv` the partial store's value of the key -/
def mergeLook (cfg : Cfg) (cur : Option Bytes) (pv : Option Bytes) : Option (Option Bytes) :=
  match pv with
  | none => some cur
  | some v => mergeVal cfg cur v

theorem look_setKV (s : Store) (k v k' : Bytes) :
    look (setKV s k v).kv k' = if k = k' then some v else look s.kv k' := look_ins _ _ _ _

theorem look_setNewKV (s : Store) (k v k' : Bytes) :
    look (setNewKV s k v).kv k' = if k = k' then some v else look s.kv k' := look_ins _ _ _ _

theorem mergeKey_look {cfg : Cfg} {s s' : Store} {k v : Bytes} (hm : mergeKey cfg s k v = some (.ok s')) :
    mergeVal cfg (look s.kv k) v = some (look s'.kv k) ∧ ∀ k', k ≠ k' → look s'.kv k' = look s.kv k' := by
  rw [mergeKey_eq] at hm
  unfold mergeVal
  cases hg : mergeGen cfg (look s.kv k) v with
  | none => rw [hg] at hm; simp [liftAct] at hm
  | some r =>
    cases r with
    | error e => rw [hg] at hm; simp [liftAct] at hm
    | ok a =>
      rw [hg] at hm
      simp only [liftAct, Option.some.injEq, Except.ok.injEq] at hm
      subst hm
      cases a with
      | keep => exact ⟨rfl, fun _ _ => rfl⟩
      | put x =>
        refine ⟨by simp only [MAct.apply, look_setKV, ↓reduceIte], fun k' hk => ?_⟩
        simp only [MAct.apply, look_setKV, hk, ↓reduceIte]
      | putNew x =>
        refine ⟨by simp only [MAct.apply, look_setNewKV, ↓reduceIte], fun k' hk => ?_⟩
        simp only [MAct.apply, look_setNewKV, hk, ↓reduceIte]

/-- the loop of `Merge` over the partial store's content, written as a recursion that stops at the first
key whose merge does not give a store -/
def mergeList (cfg : Cfg) : Store → KV → Option (Except SErr Store)
  | s, [] => some (.ok s)
  | s, (k, v) :: rest =>
    match mergeKey cfg s k v with
    | some (.ok s1) => mergeList cfg s1 rest
    | other => other

theorem mergeList_eq (cfg : Cfg) (l : KV) (s : Store) :
    l.foldl (fun (acc : Option (Except SErr Store)) kv =>
      match acc with
      | some (.ok s) => mergeKey cfg s kv.1 kv.2
      | other => other) (some (.ok s)) = mergeList cfg s l := by
  -- once the accumulator is not a store the fold leaves it alone
  have stuck : ∀ (l : KV) (acc : Option (Except SErr Store)), (∀ s, acc ≠ some (.ok s)) →
      l.foldl (fun (acc : Option (Except SErr Store)) kv =>
        match acc with
        | some (.ok s) => mergeKey cfg s kv.1 kv.2
        | other => other) acc = acc := by
    intro l
    induction l with
    | nil => intro _ _; rfl
    | cons p rest ih =>
      intro acc h
      rw [List.foldl_cons]
      match acc, h with
      | none, h => exact ih _ h
      | some (.error e), h => exact ih _ h
      | some (.ok s), h => exact absurd rfl (h s)
  fun_induction mergeList cfg s l with
  | case1 s => rfl
  | case2 s k v rest s1 hmk ih => rw [List.foldl_cons]; dsimp only; rw [hmk]; exact ih
  | case3 s k v rest hne => rw [List.foldl_cons]; exact stuck rest _ hne

theorem mergeList_key {cfg : Cfg} (l : KV) (s s' : Store) (hn : NodupKeys l)
    (hf : mergeList cfg s l = some (.ok s')) (k : Bytes) :
    mergeLook cfg (look s.kv k) (look l k) = some (look s'.kv k) := by
  fun_induction mergeList cfg s l with
  | case1 s => cases hf; rfl
  | case2 s k1 v1 rest s1 hmk ih =>
    unfold NodupKeys at hn
    simp only [List.map_cons, List.nodup_cons] at hn
    obtain ⟨m1, m2⟩ := mergeKey_look hmk
    have := ih hn.2 hf
    show mergeLook cfg (look s.kv k) (if k1 = k then some v1 else look rest k) = _
    by_cases hk : k1 = k
    · subst hk
      rw [look_none_of_not_mem hn.1] at this
      rw [if_pos rfl]
      exact m1.trans this
    · rw [if_neg hk]
      rw [m2 k hk] at this
      exact this
  | case3 s k1 v1 rest hne => exact absurd hf (hne s')

theorem foldOpt_deletes {cfg : Cfg} {sem : Sem} (k : Bytes) : ∀ (ops : List Op) (x : Option Bytes),
    (∀ o ∈ ops, o.kind = .deletePrefix) →
    foldOpt (keyEffect cfg sem k) x ops = some (if ops.any (fun o => isPrefix o.key k) then none else x) := by
  intro ops
  induction ops with
  | nil => intro x _; rfl
  | cons o rest ih =>
    intro x h
    have ho := h o List.mem_cons_self
    simp only [foldOpt, keyEffect, ho]
    rw [ih _ (fun o' ho' => h o' (List.mem_cons_of_mem _ ho'))]
    simp only [List.any_cons]
    by_cases hp : isPrefix o.key k = true
    · simp [hp]
    · simp [hp]

/-- a full store at rest between requests: consistent, no deltas, empty log -/
structure Rest (s : Store) : Prop where
  clean : Clean s
  ops   : s.ops = []

theorem Rest.empty : Rest Store.empty :=
  ⟨⟨by simp [NodupKeys, Store.empty], rfl, by simp [Store.empty, kvSize]⟩, rfl⟩

theorem merge_key {cfg : Cfg} {sem : Sem} {g g' : Store} {p : Partial} (hg : Rest g)
    (hp : NodupKeys p.store.kv) (hm : merge cfg sem g p = some (.ok g')) :
    Rest g' ∧ ∀ k, mergeLook cfg
        (if p.deletedPrefixes.any (fun pfx => isPrefix pfx k) then none else look g.kv k)
        (look p.store.kv k) = some (look g'.kv k) := by
  have hS := merge_inv hg.clean hm
  unfold merge at hm
  dsimp only at hm
  let mk : Bytes → Op := fun pfx => ⟨.deletePrefix, p.store.lastOrd, pfx, []⟩
  have hfold : p.deletedPrefixes.foldl (fun s pfx => record s ⟨.deletePrefix, p.store.lastOrd, pfx, []⟩) g =
      (p.deletedPrefixes.map mk).foldl record g := by
    rw [List.foldl_map]
  rw [hfold] at hm
  cases hb : execBlock cfg sem g (p.deletedPrefixes.map mk) with
  | error e => rw [show flush cfg sem _ = _ from hb] at hm; cases hm
  | ok s0 =>
    rw [show flush cfg sem _ = _ from hb] at hm
    dsimp only at hm
    have hm' : (match mergeList cfg s0 p.store.kv with
        | some (.ok s) => some (.ok (reset s))
        | other => other) = some (.ok g') := by
      rw [← mergeList_eq]; exact hm
    rcases hml : mergeList cfg s0 p.store.kv with _ | ⟨e | s1⟩ <;> rw [hml] at hm' <;> cases hm'
    refine ⟨⟨⟨hS.nodup, rfl, hS.size⟩, rfl⟩, fun k => ?_⟩
    -- the flushed block holds only the partial's `deletePrefix` operations
    have h0 := execBlock_key hg.clean hb k
    rw [hg.ops, List.nil_append,
      foldOpt_deletes k _ _ (by
        intro o ho
        obtain ⟨x, _, hx⟩ := List.mem_map.1 ((sortOps_perm _).mem_iff.1 ho)
        rw [← hx]),
      (sortOps_perm _).any_eq, List.any_map, Option.some.injEq] at h0
    rw [show (fun pfx => isPrefix pfx k) = ((fun o : Op => isPrefix o.key k) ∘ mk) from rfl, h0]
    exact mergeList_key p.store.kv s0 s1 hp hml k

/-- save + load of a partial store: content and deleted prefixes survive, the block state does not
(`sl P` of Driver/StoreProto.lean) -/
def saveLoadP (p : Partial) : Partial := ⟨saveLoad p.store, p.deletedPrefixes⟩

/-- the squash: per segment a fresh partial store executes the segment's blocks, is saved and loaded,
and merged into the full store, in segment order (`none`: an error or panic anywhere) -/
def squashRun (cfg : Cfg) (sem : Sem) : Store → List (List (List Op)) → Option Store
  | g, [] => some g
  | g, seg :: rest =>
    match segRun cfg sem Partial.empty seg with
    | .error _ => none
    | .ok p =>
      match merge cfg sem g (saveLoadP p) with
      | some (.ok g') => squashRun cfg sem g' rest
      | _ => none

def delHit (k : Bytes) (ops : List Op) : Bool :=
  ops.any (fun o => decide (o.kind = .deletePrefix) && isPrefix o.key k)

/-- the squash as seen by one key: per segment (given as its operations in execution order) the
partial value is the fold from "absent", then `mergeLook` after the segment's prefix deletions -/
def squashKey (cfg : Cfg) (sem : Sem) (k : Bytes) : Option Bytes → List (List Op) → Option (Option Bytes)
  | x, [] => some x
  | x, seg :: rest =>
    match foldOpt (keyEffect cfg sem k) none seg with
    | none => none
    | some pv =>
      match mergeLook cfg (if delHit k seg then none else x) pv with
      | none => none
      | some x' => squashKey cfg sem k x' rest

theorem SInv.empty : SInv Store.empty := ⟨Rest.empty.clean.nodup, Rest.empty.clean.size⟩

theorem squashRun_key {cfg : Cfg} {sem : Sem} : ∀ (segs : List (List (List Op))) (g g' : Store),
    Rest g → squashRun cfg sem g segs = some g' →
    Rest g' ∧ ∀ k, squashKey cfg sem k (look g.kv k) (segs.map (·.flatMap sortOps)) = some (look g'.kv k) := by
  intro segs g g' h hr
  fun_induction squashRun cfg sem g segs with
  | case1 g => cases hr; exact ⟨h, fun _ => rfl⟩
  | case2 g seg rest e hs => cases hr
  | case3 g seg rest p hs g1 hmg ih =>
    obtain ⟨j1, j2, j3⟩ := segRun_key seg Partial.empty p SInv.empty hs
    obtain ⟨m1, m2⟩ := merge_key (p := saveLoadP p) h j1.nodup hmg
    obtain ⟨r1, r2⟩ := ih m1 hr
    refine ⟨r1, fun k => ?_⟩
    -- the prefixes the partial store remembers are those of the segment's `deletePrefix` operations
    have e2 : p.deletedPrefixes.any (fun pfx => isPrefix pfx k) = delHit k (seg.flatMap sortOps) := by
      unfold delHit
      rw [Bool.eq_iff_iff, List.any_eq_true, List.any_eq_true]
      constructor
      · rintro ⟨pfx, hpfx, hpre⟩
        rcases (j3 pfx).1 hpfx with hc | ⟨o, ho, hk, hkey⟩
        · cases hc
        · exact ⟨o, ho, by simp [hk, hkey, hpre]⟩
      · rintro ⟨o, ho, hh⟩
        simp only [Bool.and_eq_true, decide_eq_true_eq] at hh
        exact ⟨o.key, (j3 o.key).2 (Or.inr ⟨o, ho, hh.1, rfl⟩), hh.2⟩
    have e3 : mergeLook cfg (if delHit k (seg.flatMap sortOps) then none else look g.kv k)
        (look p.store.kv k) = some (look g1.kv k) := e2 ▸ m2 k
    have e1 : foldOpt (keyEffect cfg sem k) none (seg.flatMap sortOps) = some (look p.store.kv k) := j2 k
    simp only [List.map_cons, squashKey, e1, e3]
    exact r2 k
  | case4 g seg rest p hs x => cases hr

theorem flatMap_flatten {α β : Type} (f : α → List β) (L : List (List α)) :
    L.flatten.flatMap f = (L.map (·.flatMap f)).flatten := by
  induction L with
  | nil => rfl
  | cons l rest ih => simp only [List.flatten_cons, List.flatMap_append, List.map_cons, ih]

theorem seq_squash_key {cfg : Cfg} {sem : Sem} {segs : List (List (List Op))} {F G : Store}
    (hF : seqRun cfg sem Store.empty segs.flatten = .ok F)
    (hG : squashRun cfg sem Store.empty segs = some G) (k : Bytes) :
    foldOpt (keyEffect cfg sem k) none (segs.map (·.flatMap sortOps)).flatten = some (look F.kv k) ∧
    squashKey cfg sem k none (segs.map (·.flatMap sortOps)) = some (look G.kv k) := by
  constructor
  · have := (seqRun_key segs.flatten Store.empty F SInv.empty hF).2 k
    rw [flatMap_flatten] at this
    exact this
  · exact (squashRun_key segs Store.empty G Rest.empty hG).2 k

def ORel {X : Type} (R : Bytes → X → Prop) : Option Bytes → Option X → Prop
  | none, none => True
  | some b, some x => R b x
  | _, _ => False

@[simp] theorem ORel_none_none {X : Type} (R : Bytes → X → Prop) : ORel R none none = True := rfl
@[simp] theorem ORel_some_some {X : Type} (R : Bytes → X → Prop) (b : Bytes) (x : X) :
    ORel R (some b) (some x) = R b x := rfl
@[simp] theorem ORel_none_some {X : Type} (R : Bytes → X → Prop) (x : X) : ORel R none (some x) = False := rfl
@[simp] theorem ORel_some_none {X : Type} (R : Bytes → X → Prop) (b : Bytes) : ORel R (some b) none = False := rfl

theorem ORel.cases {X : Type} {R : Bytes → X → Prop} {x : Option Bytes} {f : Option X} (h : ORel R x f) :
    (x = none ∧ f = none) ∨ ∃ b a, x = some b ∧ f = some a ∧ R b a := by
  cases x <;> cases f
  · exact .inl ⟨rfl, rfl⟩
  · exact h.elim
  · exact h.elim
  · exact .inr ⟨_, _, rfl, rfl, h⟩

theorem ORel.isSome {X : Type} {R : Bytes → X → Prop} {x : Option Bytes} {f : Option X} (h : ORel R x f) :
    x.isSome = f.isSome := by
  cases x <;> cases f <;> first | rfl | exact h.elim

/-- what a policy provides so that the byte-level model refines the algebra `A`.  Each law only speaks about
successful steps: an error ends the run, and the theorem is about runs that succeed. -/
structure Refine (cfg : Cfg) (sem : Sem) {F P W : Type} (A : KeyAlg F P W) where
  okOp  : Op → Prop
  wOf   : Op → W
  RF    : Bytes → F → Prop
  RP    : Bytes → P → Prop
  notDel : ∀ op, okOp op → op.kind ≠ .deletePrefix
  stepF : ∀ (op : Op) (x x' : Option Bytes) (fx : Option F), okOp op → ORel RF x fx →
    keyEffect cfg sem op.key x op = some x' → ORel RF x' (A.updF (wOf op) fx)
  stepP : ∀ (op : Op) (y y' : Option Bytes) (py : Option P), okOp op → ORel RP y py →
    keyEffect cfg sem op.key y op = some y' → ORel RP y' (A.updP (wOf op) py)
  mrg   : ∀ (x x' : Option Bytes) (v : Bytes) (fx : Option F) (pv : P), ORel RF x fx → RP v pv →
    mergeVal cfg x v = some x' → ORel RF x' (A.mrg fx (some pv))

namespace Refine
variable {cfg : Cfg} {sem : Sem} {F P W : Type} {A : KeyAlg F P W} (R : Refine cfg sem A)

def Adm (ops : List Op) : Prop := ∀ op ∈ ops, op.kind = .deletePrefix ∨ R.okOp op

def evAt (k : Bytes) (op : Op) : Option (Ev W) :=
  if op.kind = .deletePrefix then (if isPrefix op.key k then some .del else none)
  else if op.key = k then some (.write (R.wOf op)) else none

def evs (k : Bytes) (ops : List Op) : List (Ev W) := ops.filterMap (R.evAt k)

theorem evs_cons (k : Bytes) (op : Op) (rest : List Op) :
    R.evs k (op :: rest) = (match R.evAt k op with | some e => [e] | none => []) ++ R.evs k rest := by
  unfold evs
  rw [List.filterMap_cons]
  cases R.evAt k op <;> rfl

theorem evs_flatten (k : Bytes) (L : List (List Op)) : R.evs k L.flatten = (L.map (R.evs k)).flatten := by
  induction L with
  | nil => rfl
  | cons l rest ih =>
    simp only [List.flatten_cons, List.map_cons, ← ih]
    unfold evs
    rw [List.filterMap_append]

theorem Adm.tail {R : Refine cfg sem A} {op : Op} {rest : List Op} (h : R.Adm (op :: rest)) : R.Adm rest :=
  fun o ho => h o (List.mem_cons_of_mem _ ho)

/-- what an admitted operation is for key `k`: a deletion that hits it, nothing, or an admitted write on it -/
theorem evAt_cases (k : Bytes) {op : Op} (h : op.kind = .deletePrefix ∨ R.okOp op) :
    (R.evAt k op = some .del ∧ (decide (op.kind = .deletePrefix) && isPrefix op.key k) = true ∧
      ∀ x, keyEffect cfg sem k x op = some none) ∨
    (R.evAt k op = none ∧ (decide (op.kind = .deletePrefix) && isPrefix op.key k) = false ∧
      ∀ x, keyEffect cfg sem k x op = some x) ∨
    (R.evAt k op = some (.write (R.wOf op)) ∧ (decide (op.kind = .deletePrefix) && isPrefix op.key k) = false ∧
      R.okOp op ∧ op.key = k) := by
  unfold evAt
  rcases h with hd | hok
  · by_cases hp : isPrefix op.key k = true
    · exact .inl ⟨by simp only [hd, hp, ↓reduceIte], by simp only [hd, hp, decide_true, Bool.and_self],
        fun x => by rw [keyEffect_delete hd, if_pos hp]⟩
    · exact .inr (.inl ⟨by simp only [hd, hp, Bool.false_eq_true, ↓reduceIte],
        by simp only [hd, hp, decide_true, Bool.and_false], fun x => by rw [keyEffect_delete hd, if_neg hp]⟩)
  · have hnd := R.notDel op hok
    by_cases hk : op.key = k
    · exact .inr (.inr ⟨by simp only [hnd, hk, ↓reduceIte], by simp only [hnd, decide_false, Bool.false_and],
        hok, hk⟩)
    · exact .inr (.inl ⟨by simp only [hnd, hk, ↓reduceIte], by simp only [hnd, decide_false, Bool.false_and],
        fun x => keyEffect_other hnd hk⟩)

/-- serves the full side (`step := A.stepF`) and the partial side (`A.stepP`, `Rel` on the second component) -/
theorem fold_follows {S : Type} (Rel : Option Bytes → S → Prop) (step : S → Ev W → S)
    (hdel : ∀ s, Rel none (step s .del))
    (hw : ∀ (op : Op) (x x' : Option Bytes) (s : S), R.okOp op → Rel x s →
      keyEffect cfg sem op.key x op = some x' → Rel x' (step s (.write (R.wOf op))))
    (k : Bytes) (ops : List Op) (x x' : Option Bytes) (s : S)
    (ha : R.Adm ops) (hr : Rel x s) (hf : foldOpt (keyEffect cfg sem k) x ops = some x') :
    Rel x' ((R.evs k ops).foldl step s) := by
  fun_induction foldOpt (keyEffect cfg sem k) x ops generalizing s with
  | case1 x => cases hf; exact hr
  | case2 x op rest hke => cases hf
  | case3 x op rest x1 hke ih =>
    rw [R.evs_cons]
    rcases R.evAt_cases k (ha op List.mem_cons_self) with ⟨he, _, hk⟩ | ⟨he, _, hk⟩ | ⟨he, _, hok, rfl⟩
    · rw [he]; rw [hk] at hke; cases hke
      exact ih _ ha.tail (hdel s) hf
    · rw [he]; rw [hk] at hke; cases hke
      exact ih _ ha.tail hr hf
    · rw [he]
      exact ih _ ha.tail (hw op x x1 s hok hr hke) hf

theorem runP_flag (k : Bytes) (ops : List Op) (s : Bool × Option P) (ha : R.Adm ops) :
    (A.runP (R.evs k ops) s).1 = (s.1 || delHit k ops) := by
  induction ops generalizing s with
  | nil => simp [evs, KeyAlg.runP, delHit]
  | cons op rest ih =>
    have hdh : delHit k (op :: rest) = ((decide (op.kind = .deletePrefix) && isPrefix op.key k) || delHit k rest) :=
      List.any_cons
    have hrun : ∀ e, A.runP (e :: R.evs k rest) s = A.runP (R.evs k rest) (A.stepP s e) := fun _ => rfl
    rw [R.evs_cons, hdh]
    rcases R.evAt_cases k (ha op List.mem_cons_self) with ⟨he, hb, _⟩ | ⟨he, hb, _⟩ | ⟨he, hb, _⟩
    · rw [he, hb, List.singleton_append, hrun, ih _ ha.tail]; simp [KeyAlg.stepP]
    · rw [he, hb, List.nil_append, ih _ ha.tail, Bool.false_or]
    · rw [he, hb, List.singleton_append, hrun, ih _ ha.tail, Bool.false_or]; rfl

theorem mergeLook_rel {x x' pv : Option Bytes} {fx : Option F} {q : Option P}
    (hx : ORel R.RF x fx) (hp : ORel R.RP pv q) (hm : mergeLook cfg x pv = some x') :
    ORel R.RF x' (A.mrg fx q) := by
  rcases hp.cases with ⟨rfl, rfl⟩ | ⟨v, pvv, rfl, rfl, hp⟩
  · cases hm; rw [A.mrg_none]; exact hx
  · exact R.mrg x x' _ fx _ hx hp hm

theorem squash_fold (k : Bytes) (segs : List (List Op)) (x y : Option Bytes) (fx : Option F)
    (ha : ∀ seg ∈ segs, R.Adm seg) (hr : ORel R.RF x fx) (hs : squashKey cfg sem k x segs = some y) :
    ORel R.RF y (A.squash (segs.map (R.evs k)) fx) := by
  fun_induction squashKey cfg sem k x segs generalizing fx with
  | case1 x => cases hs; exact hr
  | case2 x seg rest hfo => cases hs
  | case3 x seg rest pv hfo hml => cases hs
  | case4 x seg rest pv hfo x1 hml ih =>
    have hseg := ha seg List.mem_cons_self
    have p1 : ORel R.RP pv (A.runP (R.evs k seg) (false, none)).2 :=
      R.fold_follows (fun (y : Option Bytes) (s : Bool × Option P) => ORel R.RP y s.2) A.stepP (fun _ => trivial)
        (fun op y y' s hok hr hke => R.stepP op y y' s.2 hok hr hke) k seg none pv (false, none) hseg trivial hfo
    have p2 := R.runP_flag k seg (false, none) hseg
    have hcur : ORel R.RF (if delHit k seg then none else x)
        (if (A.runP (R.evs k seg) (false, none)).1 then none else fx) := by
      rw [p2]
      cases delHit k seg
      · exact hr
      · trivial
    exact ih _ (fun s hs' => ha s (List.mem_cons_of_mem _ hs')) (R.mergeLook_rel hcur p1 hml) hs

theorem squash_eq_seq (k : Bytes) (segs : List (List Op)) (ha : ∀ seg ∈ segs, R.Adm seg)
    {x y : Option Bytes} (hx : foldOpt (keyEffect cfg sem k) none segs.flatten = some x)
    (hy : squashKey cfg sem k none segs = some y) :
    ∃ f : Option F, ORel R.RF x f ∧ ORel R.RF y f := by
  refine ⟨A.runF (R.evs k segs.flatten) none, ?_, ?_⟩
  · apply R.fold_follows (ORel R.RF) A.stepF (fun _ => trivial) R.stepF k segs.flatten none x none _ trivial hx
    intro op hop
    obtain ⟨seg, hseg, hop'⟩ := List.mem_flatten.1 hop
    exact ha seg hseg op hop'
  · rw [R.evs_flatten, ← A.squash_eq_seq]
    exact R.squash_fold k segs none y none ha trivial hy

/-- **Layer B**: sequential execution of all blocks on one store and the squash of any cut
into segments, both from the empty store, hold for every key representations of the same typed value -/
theorem model_squash_eq_seq (segs : List (List (List Op)))
    (ha : ∀ seg ∈ segs, ∀ calls ∈ seg, ∀ op ∈ calls, op.kind = .deletePrefix ∨ R.okOp op)
    {F' G' : Store} (hF : seqRun cfg sem Store.empty segs.flatten = .ok F')
    (hG : squashRun cfg sem Store.empty segs = some G') (k : Bytes) :
    ∃ f : Option F, ORel R.RF (look F'.kv k) f ∧ ORel R.RF (look G'.kv k) f := by
  obtain ⟨h1, h2⟩ := seq_squash_key hF hG k
  apply R.squash_eq_seq k _ _ h1 h2
  intro seg' hseg' op hop
  obtain ⟨seg, hseg, rfl⟩ := List.mem_map.1 hseg'
  obtain ⟨calls, hcalls, hop'⟩ := List.mem_flatMap.1 hop
  exact ha seg hseg calls hcalls op ((sortOps_perm calls).mem_iff.1 hop')

end Refine

/-! ### the byte-exact policies (typed value = the bytes) -/

theorem ORel_eq_iff {x f : Option Bytes} : ORel (fun b v => b = v) x f ↔ x = f := by
  cases x <;> cases f <;> simp

theorem ORel_eq {x y : Option Bytes} {f : Option Bytes}
    (hx : ORel (fun b v => b = v) x f) (hy : ORel (fun b v => b = v) y f) : x = y :=
  (ORel_eq_iff.1 hx).trans (ORel_eq_iff.1 hy).symm

namespace Refine
variable {cfg : Cfg} {sem : Sem}

/-- a policy whose partial stores hold what full stores hold and update it in the same way: one step law
serves both sides -/
def ofSame {F W : Type} {A : KeyAlg F F W} (hupd : ∀ w x, A.updP w x = A.updF w x)
    (okOp : Op → Prop) (wOf : Op → W) (Rep : Bytes → F → Prop)
    (notDel : ∀ op, okOp op → op.kind ≠ .deletePrefix)
    (step : ∀ (op : Op) (x x' : Option Bytes) (fx : Option F), okOp op → ORel Rep x fx →
      keyEffect cfg sem op.key x op = some x' → ORel Rep x' (A.updF (wOf op) fx))
    (mrg : ∀ (x x' : Option Bytes) (v : Bytes) (fx : Option F) (pv : F), ORel Rep x fx → Rep v pv →
      mergeVal cfg x v = some x' → ORel Rep x' (A.mrg fx (some pv))) : Refine cfg sem A where
  okOp := okOp
  wOf := wOf
  RF := Rep
  RP := Rep
  notDel := notDel
  stepF := step
  stepP op y y' py hok hr hke := hupd (wOf op) py ▸ step op y y' py hok hr hke
  mrg := mrg

def ofBytes {A : KeyAlg Bytes Bytes Bytes} (hupd : ∀ w x, A.updP w x = A.updF w x) (okOp : Op → Prop)
    (notDel : ∀ op, okOp op → op.kind ≠ .deletePrefix)
    (step : ∀ (op : Op) (x x' : Option Bytes), okOp op →
      keyEffect cfg sem op.key x op = some x' → x' = A.updF op.val x)
    (mrg : ∀ (x x' : Option Bytes) (v : Bytes), mergeVal cfg x v = some x' → x' = A.mrg x (some v)) :
    Refine cfg sem A :=
  ofSame hupd okOp (·.val) (fun b v => b = v) notDel
    (fun op x x' fx hok hr hke => by
      rw [ORel_eq_iff] at hr ⊢; subst hr; exact step op x x' hok hke)
    (fun x x' v fx pv hr hv hm => by
      rw [ORel_eq_iff] at hr ⊢; subst hr hv; exact mrg x x' v hm)

end Refine

theorem stripTag_id {cfg : Cfg} (h : cfg.policy ≠ .setSum) (x : Option Bytes) : stripTag cfg x = x := by
  cases x <;> simp [stripTag, h]

/-- `mergeVal` looks at the configuration only through its fields: policy and value type can be put in as
constructors, after which `mergeGen` computes -/
theorem mergeVal_cfg {cfg : Cfg} {p : Policy} {t : VT} (hpol : cfg.policy = p) (hvt : cfg.vt = t)
    (x : Option Bytes) (v : Bytes) :
    mergeVal cfg x v = mergeVal ⟨p, t, cfg.appendLimit, cfg.totalLimit, cfg.itemLimit⟩ x v := by
  obtain ⟨_, _, _, _, _⟩ := cfg
  cases hpol; cases hvt; rfl

theorem mergeVal_set {cfg : Cfg} (hpol : cfg.policy = .set) (x : Option Bytes) (v : Bytes) :
    mergeVal cfg x v = some (some v) := by
  rw [mergeVal_cfg hpol rfl]; rfl

def refSet (cfg : Cfg) (sem : Sem) (hpol : cfg.policy = .set) : Refine cfg sem (algSet Bytes) :=
  .ofBytes (fun _ _ => rfl) (fun op => op.kind = .set) (fun op h => by rw [h]; simp)
    (fun op x x' hok hke => by
      simp only [keyEffect, hok, ↓reduceIte, Option.some.injEq] at hke
      exact hke.symm)
    (fun x x' v hm => by
      rw [mergeVal_set hpol, Option.some.injEq] at hm
      exact hm.symm)

theorem mergeVal_sine {cfg : Cfg} (hpol : cfg.policy = .setIfNotExists) (x : Option Bytes) (v : Bytes) :
    mergeVal cfg x v = some (match x with | some c => some c | none => some v) := by
  rw [mergeVal_cfg hpol rfl]; cases x <;> rfl

def refSine (cfg : Cfg) (sem : Sem) (hpol : cfg.policy = .setIfNotExists) : Refine cfg sem (algSine Bytes) :=
  .ofBytes (fun _ _ => rfl) (fun op => op.kind = .setIfNotExists) (fun op h => by rw [h]; simp)
    (fun op x x' hok hke => by
      simp only [keyEffect, hok, ↓reduceIte, Option.some.injEq] at hke
      cases x <;> exact hke.symm)
    (fun x x' v hm => by
      rw [mergeVal_sine hpol, Option.some.injEq] at hm
      cases x <;> exact hm.symm)

/-- the shape `Flush` and `Merge` share for `append`: over the limit is an error of either -/
theorem append_ok {lim : Nat} {x : Option Bytes} {v : Bytes} {x' : Option Bytes}
    (h : (match x with
      | none => some (some v)
      | some old => if lim > 0 ∧ old.length + v.length ≥ lim then none else some (some (old ++ v))) = some x') :
    x' = (algAppend UInt8).updF v x := by
  cases x with
  | none => exact (Option.some.inj h).symm
  | some old =>
    dsimp only at h
    split at h
    · exact absurd h (by simp)
    · exact (Option.some.inj h).symm

theorem keyEffect_append {cfg : Cfg} (hpol : cfg.policy = .append) {op : Op} (hok : op.kind = .append)
    (x : Option Bytes) :
    keyEffect cfg (stdSem cfg) op.key x op =
      match x with
      | none => some (some op.val)
      | some old =>
        if cfg.appendLimit > 0 ∧ old.length + op.val.length ≥ cfg.appendLimit then none
        else some (some (old ++ op.val)) := by
  have hst : stripTag cfg x = x := stripTag_id (by rw [hpol]; simp) x
  simp only [keyEffect, viaSem, hok, ↓reduceIte, isSetSum, Bool.false_eq_true, hst, stdSem, semAppend]
  cases x with
  | none => rfl
  | some old =>
    dsimp only
    by_cases hlim : cfg.appendLimit > 0 ∧ old.length + op.val.length ≥ cfg.appendLimit
    · rw [if_pos hlim, if_pos hlim]
    · rw [if_neg hlim, if_neg hlim]

theorem mergeVal_append {cfg : Cfg} (hpol : cfg.policy = .append) (x : Option Bytes) (v : Bytes) :
    mergeVal cfg x v =
      match x with
      | none => some (some v)
      | some prev =>
        if cfg.appendLimit > 0 ∧ prev.length + v.length ≥ cfg.appendLimit then none
        else some (some (prev ++ v)) := by
  rw [mergeVal_cfg hpol rfl]
  cases x with
  | none => rfl
  | some old =>
    delta mergeVal mergeGen
    dsimp only
    by_cases hlim : cfg.appendLimit > 0 ∧ old.length + v.length ≥ cfg.appendLimit
    · rw [if_pos hlim, if_pos hlim]
    · rw [if_neg hlim, if_neg hlim]

def refAppend (cfg : Cfg) (hpol : cfg.policy = .append) : Refine cfg (stdSem cfg) (algAppend UInt8) :=
  .ofBytes (fun _ _ => rfl) (fun op => op.kind = .append) (fun op h => by rw [h]; simp)
    (fun op x x' hok hke => append_ok (keyEffect_append hpol hok x ▸ hke))
    (fun x x' v hm => append_ok (mergeVal_append hpol x v ▸ hm))

/-! ### `add`, `min`, `max`.  The typed value is an integer; `Rep` says which integer a stored text
stands for. -/

/-- the shape of `keyEffect` on the key of an operation whose value goes through `stdSem` -/
def SemShape (cfg : Cfg) (kind : OpKind) : Prop :=
  ∀ (op : Op) (x : Option Bytes), op.kind = kind →
    keyEffect cfg (stdSem cfg) op.key x op =
      match stdSem cfg kind x op.val with
      | .ok nv => some (some nv)
      | .error _ => none

theorem semShape_plain {cfg : Cfg} (h : cfg.policy ≠ .setSum) (vt : VT) :
    SemShape cfg (.sum vt) ∧ SemShape cfg (.max vt) ∧ SemShape cfg (.min vt) := by
  refine ⟨?_, ?_, ?_⟩ <;> intro op x hk <;>
    simp only [keyEffect, viaSem, hk, ↓reduceIte, isSetSum, Bool.false_eq_true, stripTag_id h]

/-- a numeric policy over a value type with combination `C`: `arg` reads an operand, and what `stdSem` resp.
`mergeVal` compute from represented values represents their combination -/
def refCombineR (cfg : Cfg) (C : Combine Int) (Rep : Bytes → Int → Prop) (okOp : Op → Prop)
    (arg : Bytes → Int) (kind : OpKind)
    (hkind : ∀ op, okOp op → op.kind = kind) (hnd : kind ≠ .deletePrefix) (hshape : SemShape cfg kind)
    (hsemN : ∀ op, okOp op → ∃ nv, stdSem cfg kind none op.val = .ok nv ∧ Rep nv (arg op.val))
    (hsemS : ∀ op c i, okOp op → Rep c i →
      ∃ nv, stdSem cfg kind (some c) op.val = .ok nv ∧ Rep nv (C.op i (arg op.val)))
    (hmrgN : ∀ v b, Rep v b → ∃ r, mergeVal cfg none v = some (some r) ∧ Rep r b)
    (hmrgS : ∀ c a v b, Rep c a → Rep v b → ∃ r, mergeVal cfg (some c) v = some (some r) ∧ Rep r (C.op a b)) :
    Refine cfg (stdSem cfg) (algCombine C) :=
  .ofSame (fun _ _ => rfl) okOp (fun op => arg op.val) Rep (fun op h => by rw [hkind op h]; exact hnd)
    (fun op x x' fx hok hr hke => by
      rw [hshape op x (hkind op hok)] at hke
      rcases hr.cases with ⟨rfl, rfl⟩ | ⟨c, i, rfl, rfl, hr⟩
      · obtain ⟨nv, h1, h2⟩ := hsemN op hok
        rw [h1] at hke; cases hke; exact h2
      · obtain ⟨nv, h1, h2⟩ := hsemS op _ _ hok hr
        rw [h1] at hke; cases hke; exact h2)
    (fun x x' v fx pv hr hv hm => by
      rcases hr.cases with ⟨rfl, rfl⟩ | ⟨c, i, rfl, rfl, hr⟩
      · obtain ⟨r, h1, h2⟩ := hmrgN _ _ hv
        rw [h1] at hm; cases hm; exact h2
      · obtain ⟨r, h1, h2⟩ := hmrgS _ _ _ _ hr hv
        rw [h1] at hm; cases hm; exact h2)

/-- `refCombineR` for int64 and bigint: every stored text is the canonical rendering of an integer
satisfying `ok` (`True` for bigint, the int64 range for int64), every operand is admitted -/
def refCombine (cfg : Cfg) (C : Combine Int) (ok : Int → Prop) (arg : Bytes → Int) (kind : OpKind)
    (hnd : kind ≠ .deletePrefix) (hshape : SemShape cfg kind)
    (harg : ∀ v, ok (arg v)) (hop : ∀ a b, ok a → ok b → ok (C.op a b))
    (hsemN : ∀ v, stdSem cfg kind none v = .ok (renderInt (arg v)))
    (hsemS : ∀ i v, ok i → stdSem cfg kind (some (renderInt i)) v = .ok (renderInt (C.op i (arg v))))
    (hmrgN : ∀ b, ok b → mergeVal cfg none (renderInt b) = some (some (renderInt b)))
    (hmrgS : ∀ a b, ok a → ok b →
      mergeVal cfg (some (renderInt a)) (renderInt b) = some (some (renderInt (C.op a b)))) :
    Refine cfg (stdSem cfg) (algCombine C) :=
  refCombineR cfg C (fun b i => b = renderInt i ∧ ok i) (fun op => op.kind = kind) arg kind
    (fun _ h => h) hnd hshape
    (fun op _ => ⟨_, hsemN op.val, rfl, harg _⟩)
    (fun op c i _ hc => ⟨_, by rw [hc.1]; exact hsemS i op.val hc.2, rfl, hop _ _ hc.2 (harg _)⟩)
    (fun v b hv => ⟨_, by rw [hv.1]; exact hmrgN b hv.2, rfl, hv.2⟩)
    (fun c a v b hc hv => ⟨_, by rw [hc.1, hv.1]; exact hmrgS a b hc.2 hv.2, rfl, hop _ _ hc.2 hv.2⟩)

theorem ORel_canon {ok : Int → Prop} {x y : Option Bytes} {f : Option Int}
    (hx : ORel (fun b i => b = renderInt i ∧ ok i) x f) (hy : ORel (fun b i => b = renderInt i ∧ ok i) y f) :
    x = y := by
  cases x <;> cases y <;> cases f <;> simp_all

def combAdd64 : Combine Int :=
  ⟨fun a b => wrap64 (a + b), by intro a b c; unfold wrap64 two63 two64; omega⟩
def combAddInt : Combine Int := ⟨(· + ·), Int.add_assoc⟩
def combMax : Combine Int :=
  ⟨max, by intro a b c; simp only [Int.max_def]; repeat' split
           all_goals omega⟩
def combMin : Combine Int :=
  ⟨min, by intro a b c; simp only [Int.min_def]; repeat' split
           all_goals omega⟩

theorem foundOrZeroInt64_render (i : Int) (h : InRange64 i) : foundOrZeroInt64 (some (renderInt i)) = i := by
  simp [foundOrZeroInt64, parseInt64_renderInt i h]

def refAddInt64 (cfg : Cfg) (hpol : cfg.policy = .add) (hvt : cfg.vt = .int64) :
    Refine cfg (stdSem cfg) (algCombine combAdd64) :=
  refCombine cfg combAdd64 InRange64 argInt64 (.sum .int64) (by simp)
    (semShape_plain (by rw [hpol]; simp) _).1
    argInt64_inRange (fun _ _ _ _ => wrap64_inRange _)
    (fun v => rfl)
    (fun i v h => by simp [stdSem, semSum, parseInt64_renderInt i h, combAdd64])
    (fun b h => by
      rw [mergeVal_cfg hpol hvt]; simp only [mergeVal, mergeGen, foundOrZeroInt64_render b h]
      simp [foundOrZeroInt64, wrap64_id b h])
    (fun a b ha hb => by
      rw [mergeVal_cfg hpol hvt]; simp only [mergeVal, mergeGen, foundOrZeroInt64_render _ ha, foundOrZeroInt64_render _ hb]
      rfl)

def refAddBigInt (cfg : Cfg) (hpol : cfg.policy = .add) (hvt : cfg.vt = .bigint) :
    Refine cfg (stdSem cfg) (algCombine combAddInt) :=
  refCombine cfg combAddInt (fun _ => True) argBigInt (.sum .bigint) (by simp)
    (semShape_plain (by rw [hpol]; simp) _).1
    (fun _ => trivial) (fun _ _ _ _ => trivial)
    (fun v => rfl)
    (fun i v _ => by simp [stdSem, semSum, parseInt_renderInt, combAddInt])
    (fun b _ => by
      rw [mergeVal_cfg hpol hvt]; simp [mergeVal, mergeGen, foundOrZeroBigInt, parseInt_renderInt])
    (fun a b _ _ => by
      rw [mergeVal_cfg hpol hvt]; simp [mergeVal, mergeGen, foundOrZeroBigInt, parseInt_renderInt, combAddInt])

/-! `Int.max_def`/`Int.min_def` are `max`/`min` as `if a ≤ b`; store_max.go, store_min.go and merge.go also write
the other comparisons: -/

theorem max_eq_ite_lt (a b : Int) : max a b = if a < b then b else a := by
  split
  · exact Int.max_eq_right (Int.le_of_lt ‹_›)
  · exact Int.max_eq_left (Int.not_lt.1 ‹_›)

theorem max_eq_ite_ge (a b : Int) : max a b = if a ≥ b then a else b := by
  split
  · exact Int.max_eq_left ‹_›
  · exact Int.max_eq_right (Int.le_of_lt (Int.not_le.1 ‹_›))

theorem min_eq_ite_lt (a b : Int) : min a b = if b < a then b else a := by
  split
  · exact Int.min_eq_right (Int.le_of_lt ‹_›)
  · exact Int.min_eq_left (Int.not_lt.1 ‹_›)

theorem min_eq_ite_ge (a b : Int) : min a b = if b ≤ a then b else a := by
  split
  · exact Int.min_eq_right ‹_›
  · exact Int.min_eq_left (Int.le_of_lt (Int.not_le.1 ‹_›))

theorem max_inRange {a b : Int} (ha : InRange64 a) (hb : InRange64 b) : InRange64 (max a b) := by
  simp only [Int.max_def]; split <;> assumption

theorem min_inRange {a b : Int} (ha : InRange64 a) (hb : InRange64 b) : InRange64 (min a b) := by
  simp only [Int.min_def]; split <;> assumption

def refMaxInt64 (cfg : Cfg) (hpol : cfg.policy = .max) (hvt : cfg.vt = .int64) :
    Refine cfg (stdSem cfg) (algCombine combMax) :=
  refCombine cfg combMax InRange64 argInt64 (.max .int64) (by simp)
    (semShape_plain (by rw [hpol]; simp) _).2.1
    argInt64_inRange (fun _ _ ha hb => max_inRange ha hb)
    (fun v => rfl)
    (fun i v h => by
      simp [stdSem, semMinMax, parseInt64_renderInt i h, combMax, max_eq_ite_lt])
    (fun b h => by rw [mergeVal_cfg hpol hvt]; simp [mergeVal, mergeGen, foundOrZeroInt64_render _ h])
    (fun a b ha hb => by
      rw [mergeVal_cfg hpol hvt]; simp [mergeVal, mergeGen, foundOrZeroInt64_render _ ha, foundOrZeroInt64_render _ hb, combMax,
        max_eq_ite_ge])

def refMinInt64 (cfg : Cfg) (hpol : cfg.policy = .min) (hvt : cfg.vt = .int64) :
    Refine cfg (stdSem cfg) (algCombine combMin) :=
  refCombine cfg combMin InRange64 argInt64 (.min .int64) (by simp)
    (semShape_plain (by rw [hpol]; simp) _).2.2
    argInt64_inRange (fun _ _ ha hb => min_inRange ha hb)
    (fun v => rfl)
    (fun i v h => by
      simp [stdSem, semMinMax, parseInt64_renderInt i h, combMin, min_eq_ite_lt])
    (fun b h => by rw [mergeVal_cfg hpol hvt]; simp [mergeVal, mergeGen, foundOrZeroInt64_render _ h])
    (fun a b ha hb => by
      rw [mergeVal_cfg hpol hvt]; simp [mergeVal, mergeGen, foundOrZeroInt64_render _ ha, foundOrZeroInt64_render _ hb, combMin,
        Int.min_def])

def refMaxBigInt (cfg : Cfg) (hpol : cfg.policy = .max) (hvt : cfg.vt = .bigint) :
    Refine cfg (stdSem cfg) (algCombine combMax) :=
  refCombine cfg combMax (fun _ => True) argBigInt (.max .bigint) (by simp)
    (semShape_plain (by rw [hpol]; simp) _).2.1
    (fun _ => trivial) (fun _ _ _ _ => trivial)
    (fun v => rfl)
    (fun i v _ => by
      simp [stdSem, semMinMax, parseInt_renderInt, combMax, max_eq_ite_lt])
    (fun b _ => by rw [mergeVal_cfg hpol hvt]; simp [mergeVal, mergeGen, foundOrZeroBigInt, parseInt_renderInt])
    (fun a b _ _ => by
      rw [mergeVal_cfg hpol hvt]; simp [mergeVal, mergeGen, foundOrZeroBigInt, parseInt_renderInt, combMax, Int.max_def])

def refMinBigInt (cfg : Cfg) (hpol : cfg.policy = .min) (hvt : cfg.vt = .bigint) :
    Refine cfg (stdSem cfg) (algCombine combMin) :=
  refCombine cfg combMin (fun _ => True) argBigInt (.min .bigint) (by simp)
    (semShape_plain (by rw [hpol]; simp) _).2.2
    (fun _ => trivial) (fun _ _ _ _ => trivial)
    (fun v => rfl)
    (fun i v _ => by
      simp [stdSem, semMinMax, parseInt_renderInt, combMin, min_eq_ite_ge])
    (fun b _ => by rw [mergeVal_cfg hpol hvt]; simp [mergeVal, mergeGen, foundOrZeroBigInt, parseInt_renderInt])
    (fun a b _ _ => by
      rw [mergeVal_cfg hpol hvt]; simp [mergeVal, mergeGen, foundOrZeroBigInt, parseInt_renderInt, combMin, Int.min_def])

/-! ### `set_sum`.  A stored value is a tag (`"sum:"`/`"set:"`) followed by the text of the number; the
typed value of a full store ignores the tag (`stripTag`), a partial store's tag says whether a `set`
happened in its segment.  Operands are tagged texts (what the host interface produces). -/

def IsTag (t : Bytes) : Prop := t = pfxSum ∨ t = pfxSet

theorem tag_take {tag : Bytes} (h : IsTag tag) (r : Bytes) :
    (tag ++ r).take 4 = tag ∧ (tag ++ r).drop 4 = r ∧ ¬ (tag ++ r).length < 4 := by
  rcases h with rfl | rfl <;> simp [pfxSum, pfxSet]

theorem stripTag_tagged {cfg : Cfg} (hpol : cfg.policy = .setSum) {tag : Bytes} (ht : IsTag tag) (t : Bytes) :
    stripTag cfg (some (tag ++ t)) = some t := by
  rcases ht with rfl | rfl <;> simp [stripTag, hpol, pfxSum, pfxSet, isPrefix]

/-- the typed reading of a `set_sum` operand, for a decoder `arg` of the untagged text -/
def wOfSSR {M : Type} (arg : Bytes → M) (v : Bytes) : SS M :=
  if isPrefix pfxSet v then .set (arg (v.drop 4)) else .sum (arg (v.drop 4))

theorem wOfSSR_sum {M : Type} (arg : Bytes → M) (t : Bytes) : wOfSSR arg (pfxSum ++ t) = .sum (arg t) := by
  simp [wOfSSR, pfxSum, pfxSet, isPrefix]

theorem wOfSSR_set {M : Type} (arg : Bytes → M) (t : Bytes) : wOfSSR arg (pfxSet ++ t) = .set (arg t) := by
  simp [wOfSSR, pfxSet, isPrefix]

theorem semSetSum_none (vt : VT) (v : Bytes) : semSetSum vt none v = .ok v := rfl

theorem semSetSum_set (vt : VT) (x : Option Bytes) (r : Bytes) :
    semSetSum vt x (pfxSet ++ r) = .ok (pfxSet ++ r) := by
  cases x
  · rfl
  · simp [semSetSum, pfxSet, pfxSum]

theorem semShape_setSum (cfg : Cfg) (vt : VT) : SemShape cfg (.setSum vt) := by
  intro op x hk
  simp only [keyEffect, viaSem, hk, ↓reduceIte, isSetSum]

/-- `set_sum` over a value type with addition `C`: `Rep` relates an untagged text to its typed value,
admitted operands are a tag followed by a text satisfying `okText` -/
def refSetSumR (cfg : Cfg) {M : Type} (C : Combine M) (Rep : Bytes → M → Prop) (okOp : Op → Prop)
    (okText : Bytes → Prop) (arg : Bytes → M) (vt : VT)
    (hokOp : ∀ op, okOp op →
      op.kind = .setSum vt ∧ ∃ t, okText t ∧ (op.val = pfxSum ++ t ∨ op.val = pfxSet ++ t))
    (hrepArg : ∀ t, okText t → Rep t (arg t))
    (hsem : ∀ tag c i t, IsTag tag → Rep c i → okText t →
      ∃ r, stdSem cfg (.setSum vt) (some (tag ++ c)) (pfxSum ++ t) = .ok (tag ++ r) ∧ Rep r (C.op i (arg t)))
    (hmrgSet : ∀ x t, mergeVal cfg x (pfxSet ++ t) = some (some (pfxSum ++ t)))
    (hmrgN : ∀ t b, Rep t b → ∃ r, mergeVal cfg none (pfxSum ++ t) = some (some (pfxSum ++ r)) ∧ Rep r b)
    (hmrgS : ∀ tag c a t b, IsTag tag → Rep c a → Rep t b →
      ∃ r, mergeVal cfg (some (tag ++ c)) (pfxSum ++ t) = some (some (pfxSum ++ r)) ∧ Rep r (C.op a b)) :
    Refine cfg (stdSem cfg) (algSetSum C) where
  okOp := okOp
  wOf op := wOfSSR arg op.val
  RF b i := ∃ tag t, IsTag tag ∧ b = tag ++ t ∧ Rep t i
  RP b ti := ∃ t, b = (if ti.1 then pfxSet else pfxSum) ++ t ∧ Rep t ti.2
  notDel op h := by rw [(hokOp op h).1]; simp
  stepF op x x' fx hok hr hke := by
    obtain ⟨hkind, t, ht, hval⟩ := hokOp op hok
    rw [semShape_setSum cfg vt op x hkind] at hke
    rcases hval with hval | hval
    · rw [hval, wOfSSR_sum]
      rw [hval] at hke
      rcases hr.cases with ⟨rfl, rfl⟩ | ⟨c, i, rfl, rfl, hr⟩
      · simp only [stdSem, semSetSum_none, Option.some.injEq] at hke; subst hke
        exact ⟨pfxSum, t, Or.inl rfl, rfl, hrepArg t ht⟩
      · obtain ⟨tag, c, h2, h3, h4⟩ := hr
        subst h3
        obtain ⟨r, s1, s2⟩ := hsem tag c _ t h2 h4 ht
        rw [s1] at hke; cases hke
        exact ⟨tag, r, h2, rfl, s2⟩
    · rw [hval, wOfSSR_set]
      rw [hval] at hke
      simp only [stdSem, semSetSum_set, Option.some.injEq] at hke; subst hke
      exact ⟨pfxSet, t, Or.inr rfl, rfl, hrepArg t ht⟩
  stepP op x x' fx hok hr hke := by
    obtain ⟨hkind, t, ht, hval⟩ := hokOp op hok
    rw [semShape_setSum cfg vt op x hkind] at hke
    rcases hval with hval | hval
    · rw [hval, wOfSSR_sum]
      rw [hval] at hke
      rcases hr.cases with ⟨rfl, rfl⟩ | ⟨c, i, rfl, rfl, hr⟩
      · simp only [stdSem, semSetSum_none, Option.some.injEq] at hke; subst hke
        exact ⟨t, rfl, hrepArg t ht⟩
      · obtain ⟨tg, a⟩ := i
        obtain ⟨c, h3, h4⟩ := hr
        subst h3
        have htag : IsTag (if tg = true then pfxSet else pfxSum) := by
          cases tg
          · exact Or.inl rfl
          · exact Or.inr rfl
        obtain ⟨r, s1, s2⟩ := hsem _ c _ t htag h4 ht
        rw [s1] at hke; cases hke
        exact ⟨r, rfl, s2⟩
    · rw [hval, wOfSSR_set]
      rw [hval] at hke
      simp only [stdSem, semSetSum_set, Option.some.injEq] at hke; subst hke
      cases fx with
      | none => exact ⟨t, rfl, hrepArg t ht⟩
      | some ti => obtain ⟨tg, a⟩ := ti; exact ⟨t, rfl, hrepArg t ht⟩
  mrg x x' v fx pv hr hv hm := by
    obtain ⟨tg, b⟩ := pv
    obtain ⟨t, hv, hb⟩ := hv
    subst hv
    cases tg
    · simp only [Bool.false_eq_true, ↓reduceIte] at hm
      rcases hr.cases with ⟨rfl, rfl⟩ | ⟨c, i, rfl, rfl, hr⟩
      · obtain ⟨r, s1, s2⟩ := hmrgN t b hb
        rw [s1] at hm; cases hm
        exact ⟨pfxSum, r, Or.inl rfl, rfl, s2⟩
      · obtain ⟨tag, c, h2, h3, h4⟩ := hr
        subst h3
        obtain ⟨r, s1, s2⟩ := hmrgS tag c _ t b h2 h4 hb
        rw [s1] at hm; cases hm
        exact ⟨pfxSum, r, Or.inl rfl, rfl, s2⟩
    · simp only [↓reduceIte] at hm
      rw [hmrgSet] at hm; cases hm
      cases fx <;> exact ⟨pfxSum, t, Or.inl rfl, rfl, hb⟩

/-- the tag-stripped texts (what the exported readers return) represent the typed value -/
theorem ORel_stripTag {cfg : Cfg} (hpol : cfg.policy = .setSum) {M : Type} {Rep : Bytes → M → Prop}
    {x : Option Bytes} {f : Option M}
    (hx : ORel (fun b i => ∃ tag t, IsTag tag ∧ b = tag ++ t ∧ Rep t i) x f) : ORel Rep (stripTag cfg x) f := by
  rcases hx.cases with ⟨rfl, rfl⟩ | ⟨b, i, rfl, rfl, hx⟩
  · trivial
  · obtain ⟨tag, t, ht, rfl, hr⟩ := hx
    rw [stripTag_tagged hpol ht]; exact hr

/-- `refSetSumR` for int64 and bigint: untagged texts are canonical renderings of integers satisfying `ok` -/
def refSetSum (cfg : Cfg) (C : Combine Int) (ok : Int → Prop) (vt : VT)
    (hop : ∀ a b, ok a → ok b → ok (C.op a b))
    (hsem : ∀ tag a b, IsTag tag → ok a → ok b →
      stdSem cfg (.setSum vt) (some (tag ++ renderInt a)) (pfxSum ++ renderInt b) = .ok (tag ++ renderInt (C.op a b)))
    (hmrgSet : ∀ x t, mergeVal cfg x (pfxSet ++ t) = some (some (pfxSum ++ t)))
    (hmrgN : ∀ b, ok b → mergeVal cfg none (pfxSum ++ renderInt b) = some (some (pfxSum ++ renderInt b)))
    (hmrgS : ∀ tag a b, IsTag tag → ok a → ok b →
      mergeVal cfg (some (tag ++ renderInt a)) (pfxSum ++ renderInt b) = some (some (pfxSum ++ renderInt (C.op a b)))) :
    Refine cfg (stdSem cfg) (algSetSum C) :=
  have harg : ∀ j, (parseInt (renderInt j)).getD 0 = j := fun j => by rw [parseInt_renderInt]; rfl
  refSetSumR cfg C (fun t i => t = renderInt i ∧ ok i)
    (fun op => op.kind = .setSum vt ∧ ∃ i, ok i ∧ (op.val = pfxSum ++ renderInt i ∨ op.val = pfxSet ++ renderInt i))
    (fun t => ∃ i, ok i ∧ t = renderInt i) (fun t => (parseInt t).getD 0) vt
    (fun op ⟨hk, i, hi, hv⟩ => ⟨hk, renderInt i, ⟨i, hi, rfl⟩, hv⟩)
    (fun t ⟨j, hj, ht⟩ => by subst ht; rw [harg]; exact ⟨rfl, hj⟩)
    (fun tag c i t htag ⟨hc, hi⟩ ⟨j, hj, ht⟩ => by
      subst hc ht; rw [harg]; exact ⟨_, hsem tag i j htag hi hj, rfl, hop _ _ hi hj⟩)
    hmrgSet
    (fun t b ⟨ht, hb⟩ => by subst ht; exact ⟨_, hmrgN b hb, rfl, hb⟩)
    (fun tag c a t b htag ⟨hc, ha⟩ ⟨ht, hb⟩ => by
      subst hc ht; exact ⟨_, hmrgS tag a b htag ha hb, rfl, hop _ _ ha hb⟩)

theorem ORel_tagged {cfg : Cfg} (hpol : cfg.policy = .setSum) {ok : Int → Prop} {x y : Option Bytes} {f : Option Int}
    (hx : ORel (fun b i => ∃ tag t, IsTag tag ∧ b = tag ++ t ∧ (t = renderInt i ∧ ok i)) x f)
    (hy : ORel (fun b i => ∃ tag t, IsTag tag ∧ b = tag ++ t ∧ (t = renderInt i ∧ ok i)) y f) :
    stripTag cfg x = stripTag cfg y :=
  ORel_canon (ORel_stripTag hpol hx) (ORel_stripTag hpol hy)

theorem isPrefix_set_set (t : Bytes) : isPrefix pfxSet (pfxSet ++ t) = true := by simp [pfxSet, isPrefix]
theorem isPrefix_set_sum (t : Bytes) : isPrefix pfxSet (pfxSum ++ t) = false := by simp [pfxSet, pfxSum, isPrefix]

/-- over a number type other than float64, merging a partial value tagged `set:` replaces the full store's -/
theorem mergeVal_setSum_set {cfg : Cfg} (hpol : cfg.policy = .setSum)
    (hvt : cfg.vt = .int64 ∨ cfg.vt = .bigint ∨ cfg.vt = .bigdecimal) (x : Option Bytes) (t : Bytes) :
    mergeVal cfg x (pfxSet ++ t) = some (some (pfxSum ++ t)) := by
  rcases hvt with hvt | hvt | hvt <;>
    (rw [mergeVal_cfg hpol hvt]; simp [mergeVal, mergeGen, isPrefix_set_set, (tag_take (Or.inr rfl) t).2.1])

def refSetSumInt64 (cfg : Cfg) (hpol : cfg.policy = .setSum) (hvt : cfg.vt = .int64) :
    Refine cfg (stdSem cfg) (algSetSum combAdd64) :=
  refSetSum cfg combAdd64 InRange64 .int64 (fun _ _ _ _ => wrap64_inRange _)
    (fun tag a b ht ha hb => by
      obtain ⟨t1, t2, t3⟩ := tag_take ht (renderInt a)
      obtain ⟨s1, s2, s3⟩ := tag_take (Or.inl rfl) (renderInt b)
      simp only [stdSem, semSetSum, t1, t2, t3, s1, s2, s3, ↓reduceIte, parseInt64_renderInt _ ha,
        parseInt64_renderInt _ hb, Option.getD_some, combAdd64])
    (mergeVal_setSum_set hpol (.inl hvt))
    (fun b hb => by
      rw [mergeVal_cfg hpol hvt]; simp [mergeVal, mergeGen, isPrefix_set_sum, (tag_take (Or.inl rfl) (renderInt b)).2.1,
        parseInt64_renderInt _ hb, wrap64_id b hb])
    (fun tag a b ht ha hb => by
      rw [mergeVal_cfg hpol hvt]; simp [mergeVal, mergeGen, isPrefix_set_sum, (tag_take (Or.inl rfl) (renderInt b)).2.1,
        (tag_take ht (renderInt a)).2.1, parseInt64_renderInt _ hb, parseInt64_renderInt _ ha, combAdd64])

def refSetSumBigInt (cfg : Cfg) (hpol : cfg.policy = .setSum) (hvt : cfg.vt = .bigint) :
    Refine cfg (stdSem cfg) (algSetSum combAddInt) :=
  refSetSum cfg combAddInt (fun _ => True) .bigint (fun _ _ _ _ => trivial)
    (fun tag a b ht _ _ => by
      obtain ⟨t1, t2, t3⟩ := tag_take ht (renderInt a)
      obtain ⟨s1, s2, s3⟩ := tag_take (Or.inl rfl) (renderInt b)
      simp only [stdSem, semSetSum, t1, t2, t3, s1, s2, s3, ↓reduceIte, argBigInt, parseInt_renderInt,
        Option.getD_some, combAddInt])
    (mergeVal_setSum_set hpol (.inr (.inl hvt)))
    (fun b _ => by
      rw [mergeVal_cfg hpol hvt]; simp [mergeVal, mergeGen, isPrefix_set_sum, (tag_take (Or.inl rfl) (renderInt b)).2.1,
        parseInt_renderInt])
    (fun tag a b ht _ _ => by
      rw [mergeVal_cfg hpol hvt]; simp [mergeVal, mergeGen, isPrefix_set_sum, (tag_take (Or.inl rfl) (renderInt b)).2.1,
        (tag_take ht (renderInt a)).2.1, parseInt_renderInt, combAddInt])

/-! ### `add`, `min`, `max` over bigdecimal.  Operands have at most 34 decimals (the host interface
truncates them: `hostOp`), so every stored value has at most 34 decimals, merge's `Truncate(34)` is the
identity, and the typed value is the integer `value × 10^34` (`typedDec34`).  Stored texts are not
canonical as `Dec`s (`"1.50"` reads as 150/100, is written as `"1.5"`), so the representation relation is
"reads as" (`RepDec`) rather than "is the rendering of". -/

/-- a bigdecimal operand as it reaches the store: parses, at most 34 decimals -/
def DecOperand (v : Bytes) : Prop := ∃ d, Dec.parse v = some d ∧ d.scale ≤ 34

def argDec34 (v : Bytes) : Int := ((Dec.parse v).getD ⟨0, 0⟩).val34

/-- what `hostOp` (wasm/call.go) hands to the store for `add`/`min`/`max` bigdecimal is such an operand -/
theorem hostOp_decOperand {op op' : Op}
    (hk : op.kind = .sum .bigdecimal ∨ op.kind = .max .bigdecimal ∨ op.kind = .min .bigdecimal)
    (h : hostOp op = some op') : op'.kind = op.kind ∧ DecOperand op'.val := by
  unfold hostOp at h
  have key : ∀ knd : OpKind, (match Dec.parse op.val with
      | none => none
      | some d => some (⟨knd, op.ord, op.key, (d.truncate 34).render⟩ : Op)) = some op' →
      op'.kind = knd ∧ DecOperand op'.val := by
    intro knd h
    split at h
    · simp at h
    · rename_i d hd
      simp only [Option.some.injEq] at h
      subst h
      refine ⟨rfl, ?_⟩
      obtain ⟨d', p1, p2, _⟩ := Dec.parse_render (d.truncate 34)
      exact ⟨d', p1, Nat.le_trans p2 (Dec.truncate_scale d)⟩
  rcases hk with hk | hk | hk <;>
    (simp only [hk] at h; obtain ⟨h1, h2⟩ := key _ h; exact ⟨h1.trans hk.symm, h2⟩)

theorem typed_eq_of_repDec {x y : Option Bytes} {f : Option Int}
    (hx : ORel RepDec x f) (hy : ORel RepDec y f) :
    x.isSome = y.isSome ∧ x.bind typedDec34 = y.bind typedDec34 := by
  have key : ∀ {z : Option Bytes}, ORel RepDec z f → z.bind typedDec34 = f := fun h => by
    rcases h.cases with ⟨rfl, rfl⟩ | ⟨b, i, rfl, rfl, h⟩
    · rfl
    · exact h.typed
  exact ⟨hx.isSome.trans hy.isSome.symm, (key hx).trans (key hy).symm⟩

theorem foundOrZeroDec_rep {v : Bytes} {b : Int} (h : RepDec v b) :
    ∃ d, foundOrZeroDec (some v) = some d ∧ d.scale ≤ 34 ∧ d.val34 = b := by
  obtain ⟨d, h1, h2, h3⟩ := h
  exact ⟨d, by simp [foundOrZeroDec, h1, Dec.truncate_id d h2], h2, h3⟩

theorem Dec.ite34 {p q : Dec} (hp : p.scale ≤ 34) (hq : q.scale ≤ 34) (c : Prop) [Decidable c] :
    (if c then p else q).scale ≤ 34 ∧ (if c then p else q).val34 = if c then p.val34 else q.val34 := by
  split
  · exact ⟨hp, rfl⟩
  · exact ⟨hq, rfl⟩

/-- a numeric policy over bigdecimal with at most 34 decimals: `Flush` combines the parsed decimals by `opS`,
`Merge` by `opM`, and both compute `C` on the values `× 10^34`.  The passage from such a decimal to the text
that represents its value (`repDec_render`) is made here, once. -/
def refCombineDec (cfg : Cfg) (C : Combine Int) (kind : OpKind) (hnd : kind ≠ .deletePrefix)
    (hshape : SemShape cfg kind) (opS opM : Dec → Dec → Dec)
    (hopS : ∀ p d, p.scale ≤ 34 → d.scale ≤ 34 →
      (opS p d).scale ≤ 34 ∧ (opS p d).val34 = C.op p.val34 d.val34)
    (hopM : ∀ p d, p.scale ≤ 34 → d.scale ≤ 34 →
      (opM p d).scale ≤ 34 ∧ (opM p d).val34 = C.op p.val34 d.val34)
    (hsemN : ∀ v d, Dec.parse v = some d → stdSem cfg kind none v = .ok d.render)
    (hsemS : ∀ c p v d, Dec.parse c = some p → Dec.parse v = some d →
      stdSem cfg kind (some c) v = .ok (opS p d).render)
    (hmrgN : ∀ v d, foundOrZeroDec (some v) = some d → d.scale ≤ 34 →
      ∃ r : Dec, mergeVal cfg none v = some (some r.render) ∧ r.scale ≤ 34 ∧ r.val34 = d.val34)
    (hmrgS : ∀ c p v d, foundOrZeroDec (some c) = some p → foundOrZeroDec (some v) = some d →
      mergeVal cfg (some c) v = some (some (opM p d).render)) :
    Refine cfg (stdSem cfg) (algCombine C) :=
  have harg : ∀ {v d}, Dec.parse v = some d → argDec34 v = d.val34 := fun h => by
    rw [argDec34, h, Option.getD_some]
  refCombineR cfg C RepDec (fun op => op.kind = kind ∧ DecOperand op.val) argDec34 kind (fun _ h => h.1) hnd hshape
    (fun op hv => by
      obtain ⟨d, h1, h2⟩ := hv.2
      exact ⟨d.render, hsemN _ d h1, harg h1 ▸ repDec_render d h2⟩)
    (fun op c i hv hc => by
      obtain ⟨d, h1, h2⟩ := hv.2
      obtain ⟨p, p1, p2, rfl⟩ := hc
      obtain ⟨a1, a2⟩ := hopS p d p2 h2
      exact ⟨_, hsemS c p _ d p1 h1, harg h1 ▸ a2 ▸ repDec_render _ a1⟩)
    (fun v b hv => by
      obtain ⟨d, f1, f2, rfl⟩ := foundOrZeroDec_rep hv
      obtain ⟨r, m1, m2, m3⟩ := hmrgN v d f1 f2
      exact ⟨_, m1, m3 ▸ repDec_render r m2⟩)
    (fun c a v b hc hv => by
      obtain ⟨d, f1, f2, rfl⟩ := foundOrZeroDec_rep hv
      obtain ⟨p, g1, g2, rfl⟩ := foundOrZeroDec_rep hc
      obtain ⟨a1, a2⟩ := hopM p d g2 f2
      exact ⟨_, hmrgS c p v d g1 f1, a2 ▸ repDec_render _ a1⟩)

def refAddDec (cfg : Cfg) (hpol : cfg.policy = .add) (hvt : cfg.vt = .bigdecimal) :
    Refine cfg (stdSem cfg) (algCombine combAddInt) :=
  refCombineDec cfg combAddInt (.sum .bigdecimal) (by simp) (semShape_plain (by rw [hpol]; simp) _).1
    Dec.add Dec.add Dec.val34_add Dec.val34_add
    (fun v d h1 => by simp [stdSem, semSum, h1])
    (fun c p v d p1 h1 => by simp [stdSem, semSum, h1, p1])
    (fun v d f1 f2 => by
      have f0 : foundOrZeroDec none = some ⟨0, 0⟩ := rfl
      obtain ⟨a1, a2⟩ := Dec.val34_add ⟨0, 0⟩ d (by simp) f2
      exact ⟨(⟨0, 0⟩ : Dec).add d, by rw [mergeVal_cfg hpol hvt]; simp [mergeVal, mergeGen, f1, f0], a1,
        by simpa [Dec.val34] using a2⟩)
    (fun c p v d g1 f1 => by rw [mergeVal_cfg hpol hvt]; simp [mergeVal, mergeGen, f1, g1])

theorem cmp_gt_beq (a b : Dec) (ha : a.scale ≤ 34) (hb : b.scale ≤ 34) :
    (a.cmp b == .gt) = decide (b.val34 < a.val34) := by
  rw [Bool.eq_iff_iff]
  simp only [beq_iff_eq, decide_eq_true_eq]
  exact Dec.cmp_gt a b ha hb

theorem cmp_gt_bne (a b : Dec) (ha : a.scale ≤ 34) (hb : b.scale ≤ 34) :
    (a.cmp b != .gt) = decide (a.val34 ≤ b.val34) := by
  rw [Bool.eq_iff_iff]
  simp only [bne_iff_ne, ne_eq, decide_eq_true_eq, Dec.cmp_gt a b ha hb]
  omega

def refMaxDec (cfg : Cfg) (hpol : cfg.policy = .max) (hvt : cfg.vt = .bigdecimal) :
    Refine cfg (stdSem cfg) (algCombine combMax) :=
  refCombineDec cfg combMax (.max .bigdecimal) (by simp) (semShape_plain (by rw [hpol]; simp) _).2.1
    (fun p d => if d.cmp p == .gt then d else p) (fun p d => if p.cmp d != .gt then d else p)
    (fun p d hp hd => by
      simp only [cmp_gt_beq d p hd hp, decide_eq_true_eq, combMax, max_eq_ite_lt]
      exact Dec.ite34 hd hp _)
    (fun p d hp hd => by
      simp only [cmp_gt_bne p d hp hd, decide_eq_true_eq, combMax, Int.max_def]
      exact Dec.ite34 hd hp _)
    (fun v d h1 => by simp [stdSem, semMinMax, h1])
    (fun c p v d p1 h1 => by simp only [stdSem, semMinMax, h1, p1, ↓reduceIte, apply_ite Dec.render])
    (fun v d f1 f2 => ⟨d, by rw [mergeVal_cfg hpol hvt]; simp [mergeVal, mergeGen, f1], f2, rfl⟩)
    (fun c p v d g1 f1 => by rw [mergeVal_cfg hpol hvt]; simp only [mergeVal, mergeGen, f1, g1, ↓reduceIte])

def refMinDec (cfg : Cfg) (hpol : cfg.policy = .min) (hvt : cfg.vt = .bigdecimal) :
    Refine cfg (stdSem cfg) (algCombine combMin) :=
  refCombineDec cfg combMin (.min .bigdecimal) (by simp) (semShape_plain (by rw [hpol]; simp) _).2.2
    (fun p d => if d.cmp p != .gt then d else p) (fun p d => if p.cmp d != .gt then p else d)
    (fun p d hp hd => by
      simp only [cmp_gt_bne d p hd hp, decide_eq_true_eq, combMin, min_eq_ite_ge]
      exact Dec.ite34 hd hp _)
    (fun p d hp hd => by
      simp only [cmp_gt_bne p d hp hd, decide_eq_true_eq, combMin, Int.min_def]
      exact Dec.ite34 hp hd _)
    (fun v d h1 => by simp [stdSem, semMinMax, h1])
    (fun c p v d p1 h1 => by
      simp only [stdSem, semMinMax, h1, p1, Bool.false_eq_true, ↓reduceIte, apply_ite Dec.render])
    (fun v d f1 f2 => ⟨d, by rw [mergeVal_cfg hpol hvt]; simp [mergeVal, mergeGen, f1], f2, rfl⟩)
    (fun c p v d g1 f1 => by
      rw [mergeVal_cfg hpol hvt]; simp only [mergeVal, mergeGen, f1, g1]
      simp)

/-! ### `set_sum` over bigdecimal.  No truncation anywhere on this path (merge after the fix of F6), so
scales are unbounded and the typed value is the number itself: two texts agree when they parse to
decimals that are equal as numbers (`Dec.Eqv`). -/

theorem repDecQ_of_eqv {d e : Dec} (h : d.Eqv e) : RepDecQ d.render e := by
  obtain ⟨q, q1, q2⟩ := repDecQ_render d
  exact ⟨q, q1, q2.trans h⟩

def refSetSumDec (cfg : Cfg) (hpol : cfg.policy = .setSum) (hvt : cfg.vt = .bigdecimal) :
    Refine cfg (stdSem cfg) (algSetSum ⟨Dec.add, Dec.add_assoc⟩) :=
  refSetSumR cfg ⟨Dec.add, Dec.add_assoc⟩ RepDecQ
    (fun op => op.kind = .setSum .bigdecimal ∧
      ∃ t, (∃ d, Dec.parse t = some d) ∧ (op.val = pfxSum ++ t ∨ op.val = pfxSet ++ t))
    (fun t => ∃ d, Dec.parse t = some d) (fun t => (Dec.parse t).getD ⟨0, 0⟩) .bigdecimal
    (fun _ h => h)
    (fun t ht => by
      obtain ⟨d, hd⟩ := ht
      exact ⟨d, hd, by simp [hd, Dec.Eqv.refl]⟩)
    (fun tag c i t htag hc ht => by
      obtain ⟨d, hd⟩ := ht
      obtain ⟨p, p1, p2⟩ := hc
      obtain ⟨t1, t2, t3⟩ := tag_take htag c
      obtain ⟨s1, s2, s3⟩ := tag_take (Or.inl rfl) t
      refine ⟨(p.add d).render, ?_, ?_⟩
      · simp only [stdSem, semSetSum, t1, t2, t3, s1, s2, s3, ↓reduceIte, p1, hd]
      · exact repDecQ_of_eqv (by simpa [hd] using Dec.add_congr p2 (Dec.Eqv.refl d)))
    (mergeVal_setSum_set hpol (.inr (.inr hvt)))
    (fun t b hb => by
      obtain ⟨d, d1, d2⟩ := hb
      refine ⟨((⟨0, 0⟩ : Dec).add d).render, ?_, ?_⟩
      · rw [mergeVal_cfg hpol hvt]; simp [mergeVal, mergeGen, isPrefix_set_sum, foundOrZeroPrefixedDec,
          (tag_take (Or.inl rfl) t).2.1, d1]
      · refine repDecQ_of_eqv (Dec.Eqv.trans ?_ d2)
        unfold Dec.Eqv Dec.add Dec.rescaleUp
        simp)
    (fun tag c a t b htag hc hb => by
      obtain ⟨d, d1, d2⟩ := hb
      obtain ⟨e, e1, e2⟩ := hc
      refine ⟨(e.add d).render, ?_, ?_⟩
      · rw [mergeVal_cfg hpol hvt]; simp [mergeVal, mergeGen, isPrefix_set_sum, foundOrZeroPrefixedDec,
          (tag_take (Or.inl rfl) t).2.1, (tag_take htag c).2.1, d1, e1]
      · exact repDecQ_of_eqv (Dec.add_congr e2 d2))

theorem typed_eq_of_repDecQ {cfg : Cfg} (hpol : cfg.policy = .setSum) {x y : Option Bytes} {f : Option Dec}
    (hx : ORel (fun b i => ∃ tag t, IsTag tag ∧ b = tag ++ t ∧ RepDecQ t i) x f)
    (hy : ORel (fun b i => ∃ tag t, IsTag tag ∧ b = tag ++ t ∧ RepDecQ t i) y f) :
    x.isSome = y.isSome ∧ ∀ bx by', stripTag cfg x = some bx → stripTag cfg y = some by' →
      ∃ dx dy, Dec.parse bx = some dx ∧ Dec.parse by' = some dy ∧ dx.Eqv dy := by
  refine ⟨hx.isSome.trans hy.isSome.symm, fun bx by' hbx hby => ?_⟩
  have hx' := ORel_stripTag hpol hx
  have hy' := ORel_stripTag hpol hy
  rw [hbx] at hx'
  rw [hby] at hy'
  cases f with
  | none => exact hx'.elim
  | some d =>
    obtain ⟨dx, px, ex⟩ := hx'
    obtain ⟨dy, py, ey⟩ := hy'
    exact ⟨dx, dy, px, py, ex.trans ey.symm⟩

end SV
