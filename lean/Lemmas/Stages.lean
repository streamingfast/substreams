import Model.Stages
import Lemmas.Segmenter
/-!
Lemmas about `Model/Stages.lean`, for the scheduler proofs.  Invariants of the matrix: `WF`, `StagesOK`, `IdxPos`
(`initStages_base` establishes them, `Keep` carries them).  A cell is read through `getState_row` / `getState_beyond`; the
writers are characterised by `getState_setState_*`, `getState_allocSegments`, `transition_tstep`, `transition_target`.
Loops are walked by `fun_induction` (one case per branch, in the order of the definition); the inner loop of `NextJob`
once, into its graph `StagesRun`.
-/
namespace SV.Stg
open SV

theorem getD_mem {α : Type} {l : List α} {i : Nat} (d : α) (h : i < l.length) : l.getD i d ∈ l := by
  rw [List.getD_eq_getElem?_getD, List.getElem?_eq_getElem h]
  exact List.getElem_mem _

theorem init_lt_or_empty (s : Segmenter) (hk : 0 < s.interval) (hpos : 0 < s.end_) (hmod : s.end_ % s.interval = 0) :
    s.init < s.end_ ∨ s.lastIndex < s.firstIndex := by
  by_cases hlt : s.init < s.end_
  · exact .inl hlt
  · have hq : s.end_ / s.interval * s.interval = s.end_ := Nat.div_mul_cancel (Nat.dvd_of_mod_eq_zero hmod)
    exact .inr (Nat.lt_of_lt_of_le ((Nat.div_lt_iff_lt_mul hk).2 (by rw [hq]; omega))
      (Nat.div_le_div_right (Nat.le_of_not_lt hlt)))

namespace Stages

/-- `shadowable` and `stages` are fixed too: `setShadowableSegment` and `setStage` are not `Rest` steps (see `Keep`) -/
structure Rest (s s' : Stages) : Prop where
  stages     : s'.stages = s.stages
  offset     : s'.offset = s.offset
  globalSeg  : s'.globalSeg = s.globalSeg
  storeSeg   : s'.storeSeg = s.storeSeg
  mapSeg     : s'.mapSeg = s.mapSeg
  shadowable : s'.shadowable = s.shadowable
  outIsIndex : s'.outIsIndex = s.outIsIndex

theorem Rest.refl (s : Stages) : Rest s s := ⟨rfl, rfl, rfl, rfl, rfl, rfl, rfl⟩
theorem Rest.trans {a b c : Stages} (h1 : Rest a b) (h2 : Rest b c) : Rest a c :=
  ⟨h2.stages.trans h1.stages, h2.offset.trans h1.offset, h2.globalSeg.trans h1.globalSeg,
   h2.storeSeg.trans h1.storeSeg, h2.mapSeg.trans h1.mapSeg, h2.shadowable.trans h1.shadowable,
   h2.outIsIndex.trans h1.outIsIndex⟩

theorem Rest.nStages {s s' : Stages} (h : Rest s s') : s'.nStages = s.nStages := by
  unfold Stages.nStages; rw [h.stages]
theorem Rest.stageAt {s s' : Stages} (h : Rest s s') (i : Nat) : s'.stageAt i = s.stageAt i := by
  unfold Stages.stageAt; rw [h.stages]

theorem stages_ne_nil {s : Stages} {k : Nat} (h : k < s.nStages) : s.stages ≠ [] := by
  intro hc
  rw [Stages.nStages, hc] at h
  exact Nat.not_lt_zero _ h

def WF (s : Stages) : Prop := ∀ r ∈ s.states, r.length = s.nStages

theorem WF.row {s : Stages} (hw : s.WF) {i : Nat} (hi : i < s.states.length) : (s.states.getD i []).length = s.nStages :=
  hw _ (getD_mem [] hi)

/-- the second alternative is a stage that starts at or after the end of the range: it has no segment at all -/
def StagesOK (s : Stages) : Prop :=
  ∀ st ∈ s.stages, 0 < st.seg.interval ∧ (st.seg.init < st.seg.end_ ∨ st.seg.lastIndex < st.seg.firstIndex)

theorem stageAt_mem (s : Stages) (k : Nat) (hk : k < s.nStages) : s.stageAt k ∈ s.stages :=
  getD_mem default hk

theorem StagesOK.range {s : Stages} (h : s.StagesOK) {k seg : Nat} (hk : k < s.nStages)
    (h1 : (s.stageAt k).seg.firstIndex ≤ seg) (h2 : seg ≤ (s.stageAt k).seg.lastIndex) :
    ∃ r, (s.stageAt k).seg.range? seg = some r := by
  obtain ⟨hi, hr⟩ := h _ (stageAt_mem s k hk)
  rcases hr with hr | hr
  · exact ⟨_, Segmenter.range?_eq _ hi hr seg h1 h2⟩
  · omega

theorem Rest.stagesOK {s s' : Stages} (h : Rest s s') (ho : s.StagesOK) : s'.StagesOK := by
  unfold StagesOK; rw [h.stages]; exact ho

/-- `CmdTryMerge` builds its unit from `stage.idx`.  Only store stages: when `NewStages` skips the store stages the mapper
stage sits at position 0 with the `idx` of the graph. -/
def IdxPos (s : Stages) : Prop := ∀ i, i < s.nStages → (s.stageAt i).kind = .store → (s.stageAt i).idx = i

theorem Rest.idxPos {s s' : Stages} (h : Rest s s') (hi : s.IdxPos) : s'.IdxPos := by
  intro j hj hk
  rw [h.nStages] at hj
  rw [h.stageAt] at hk ⊢
  exact hi j hj hk

/-! ### matGet, matSet -/

theorem matGet_matSet_same (m : List Row) (i j : Nat) (v : UnitState) (hi : i < m.length)
    (hj : j < (m.getD i []).length) : matGet (matSet m i j v) i j = v := by
  simp only [List.getD_eq_getElem?_getD, List.getElem?_eq_getElem hi, Option.getD_some] at hj
  simp [matGet, matSet, hi, hj]

theorem matGet_matSet_other (m : List Row) (i j i' j' : Nat) (v : UnitState) (h : ¬(i' = i ∧ j' = j)) :
    matGet (matSet m i j v) i' j' = matGet m i' j' := by
  simp only [matGet, matSet, List.getD_eq_getElem?_getD, List.getElem?_modify]
  split
  · rename_i hi
    cases m[i']? with
    | none => rfl
    | some r =>
      simp only [Option.map_eq_map, Option.map_some, Option.getD_some, List.getElem?_set,
        if_neg (fun e : j = j' => h ⟨hi.symm, e.symm⟩)]
  · simp
theorem matSet_length (m : List Row) (i j : Nat) (v : UnitState) : (matSet m i j v).length = m.length := by
  unfold matSet; simp

theorem matSet_rows (m : List Row) (i j : Nat) (v : UnitState) (n : Nat) (h : ∀ r ∈ m, r.length = n) :
    ∀ r ∈ matSet m i j v, r.length = n := by
  intro r hr
  unfold matSet at hr
  obtain ⟨k, hk, rfl⟩ := List.mem_iff_getElem.1 hr
  rw [List.getElem_modify]
  split
  · rw [List.length_set]; exact h _ (List.getElem_mem _)
  · exact h _ (List.getElem_mem _)

/-! ### getState -/

/-- an allocated cell below its stage's first segment reads NoOp whatever it holds -/
abbrev Below (s : Stages) (seg stg : Nat) : Prop := s.stages ≠ [] ∧ seg < (s.stageAt stg).seg.firstIndex

/-- stated, like `Rest.getState_row`, for any state that differs from `s` in the matrix only: that is how every operation
leaves it -/
theorem Rest.getState_beyond {s s' : Stages} (hr : Rest s s') {seg : Nat} (stg : Nat)
    (h : s.offset + s'.states.length ≤ seg) : s'.getState seg stg = .pending := by
  unfold getState; rw [hr.offset, if_pos h]

theorem Rest.getState_row {s s' : Stages} (hr : Rest s s') {seg : Nat} (stg : Nat) (h : seg < s.offset + s'.states.length) :
    s'.getState seg stg = if seg < s.offset ∨ Below s seg stg then .noOp else matGet s'.states (seg - s.offset) stg := by
  unfold getState; rw [hr.offset, hr.stages, hr.stageAt, if_neg (Nat.not_le_of_gt h)]

theorem getState_beyond {s : Stages} {seg : Nat} (stg : Nat) (h : s.offset + s.states.length ≤ seg) :
    s.getState seg stg = .pending :=
  (Rest.refl s).getState_beyond stg h

theorem getState_row {s : Stages} {seg : Nat} (stg : Nat) (h : seg < s.offset + s.states.length) :
    s.getState seg stg = if seg < s.offset ∨ Below s seg stg then .noOp else matGet s.states (seg - s.offset) stg :=
  (Rest.refl s).getState_row stg h

theorem Rest.getState_old {s s' : Stages} (hr : Rest s s') {seg stg : Nat} (h : seg < s.offset + s.states.length)
    (hl : s.states.length ≤ s'.states.length)
    (hm : s.offset ≤ seg → matGet s'.states (seg - s.offset) stg = matGet s.states (seg - s.offset) stg) :
    s'.getState seg stg = s.getState seg stg := by
  rw [hr.getState_row stg (Nat.lt_of_lt_of_le h (Nat.add_le_add_left hl _)), Stages.getState_row stg h]
  by_cases c : seg < s.offset ∨ Below s seg stg
  · rw [if_pos c, if_pos c]
  · rw [if_neg c, if_neg c, hm (Nat.le_of_not_lt fun h' => c (.inl h'))]

theorem getState_below {s : Stages} {seg stg : Nat} (h : seg < s.offset + s.states.length) (hb : Below s seg stg) :
    s.getState seg stg = .noOp := by
  rw [getState_row stg h, if_pos (.inr hb)]

theorem first_le_of_pending_allocated {s : Stages} {seg stg : Nat} (hp : s.getState seg stg = .pending)
    (hne : s.stages ≠ []) (hal : seg < s.offset + s.states.length) : (s.stageAt stg).seg.firstIndex ≤ seg := by
  apply Nat.le_of_not_lt
  intro hc
  rw [getState_below hal ⟨hne, hc⟩] at hp
  cases hp

theorem in_range_of_state (s : Stages) (hw : s.WF) (seg stg : Nat) (h1 : s.getState seg stg ≠ .pending)
    (h2 : s.getState seg stg ≠ .noOp) : s.offset ≤ seg ∧ seg - s.offset < s.states.length ∧ stg < s.nStages := by
  by_cases c1 : seg < s.offset + s.states.length
  · rw [getState_row stg c1] at h1 h2
    by_cases c2 : seg < s.offset ∨ Below s seg stg
    · rw [if_pos c2] at h2; exact absurd rfl h2
    · rw [if_neg c2] at h1
      have c3 : ¬ seg < s.offset := fun h => c2 (.inl h)
      have hlen : seg - s.offset < s.states.length := by omega
      refine ⟨by omega, hlen, Nat.lt_of_not_le fun hc => h1 ?_⟩
      -- beyond the end of its row the cell would read Pending
      unfold matGet
      rw [List.getD_eq_getElem?_getD (l := s.states.getD (seg - s.offset) []), List.getElem?_eq_none (by rw [hw.row hlen]; exact hc)]
      rfl
  · exact absurd (getState_beyond stg (Nat.le_of_not_lt c1)) h1

/-! ### setState -/

theorem setState_inv {s s' : Stages} {seg stg : Nat} {v : UnitState} (h : s.setState seg stg v = .ok s') :
    (s.offset ≤ seg ∧ seg - s.offset < s.states.length ∧ stg < s.nStages) ∧
    s' = { s with states := matSet s.states (seg - s.offset) stg v } := by
  unfold setState at h
  split at h
  · cases h
  · rename_i hc; cases h; exact ⟨by omega, rfl⟩

theorem setState_ok_iff (s : Stages) (seg stg : Nat) (v : UnitState) :
    (∃ s', s.setState seg stg v = .ok s') ↔ (s.offset ≤ seg ∧ seg - s.offset < s.states.length ∧ stg < s.nStages) := by
  refine ⟨fun ⟨s', h⟩ => (setState_inv h).1, fun h => ?_⟩
  unfold setState
  rw [if_neg (by omega)]
  exact ⟨_, rfl⟩

theorem setState_rest {s s' : Stages} {seg stg : Nat} {v : UnitState} (h : s.setState seg stg v = .ok s') : Rest s s' := by
  rw [(setState_inv h).2]; exact ⟨rfl, rfl, rfl, rfl, rfl, rfl, rfl⟩

theorem setState_wf {s s' : Stages} {seg stg : Nat} {v : UnitState} (h : s.setState seg stg v = .ok s') (hw : s.WF) :
    s'.WF := by
  rw [(setState_inv h).2]; exact matSet_rows _ _ _ _ _ hw

theorem setState_length {s s' : Stages} {seg stg : Nat} {v : UnitState} (h : s.setState seg stg v = .ok s') :
    s'.states.length = s.states.length := by
  rw [(setState_inv h).2]; exact matSet_length _ _ _ _

theorem getState_setState_other {s s' : Stages} {seg stg : Nat} {v : UnitState} (h : s.setState seg stg v = .ok s')
    (seg' stg' : Nat) (hne : ¬(seg' = seg ∧ stg' = stg)) : s'.getState seg' stg' = s.getState seg' stg' := by
  have hr := setState_rest h
  have hl := setState_length h
  have hok := (setState_inv h).1
  by_cases hb : seg' < s.offset + s.states.length
  · refine hr.getState_old hb (Nat.le_of_eq hl.symm) fun ho => ?_
    rw [(setState_inv h).2]
    exact matGet_matSet_other _ _ _ _ _ _ fun e => hne ⟨by omega, e.2⟩
  · rw [hr.getState_beyond stg' (by rw [hl]; exact Nat.le_of_not_lt hb), getState_beyond stg' (Nat.le_of_not_lt hb)]

theorem getState_setState_same {s s' : Stages} {seg stg : Nat} {v : UnitState} (h : s.setState seg stg v = .ok s')
    (hw : s.WF) : s'.getState seg stg = if Below s seg stg then .noOp else v := by
  have hok := (setState_inv h).1
  rw [(setState_rest h).getState_row stg (by rw [setState_length h]; omega)]
  by_cases hb : Below s seg stg
  · rw [if_pos (.inr hb), if_pos hb]
  · rw [if_neg (fun hc => hc.elim (by omega) hb), if_neg hb, (setState_inv h).2]
    apply matGet_matSet_same _ _ _ _ hok.2.1
    rw [hw.row hok.2.1]; exact hok.2.2

/-! ### allocSegments -/

theorem allocSegments_eq (s : Stages) (x : Nat) : ∃ n, x < s.offset + (s.states.length + n) ∧
    s.allocSegments x = { s with states := s.states ++ List.replicate n (List.replicate s.nStages .pending) } := by
  fun_cases allocSegments s x
  case case1 h => exact ⟨0, by omega, by rw [List.replicate_zero, List.append_nil]⟩
  case case2 h => exact ⟨0, by omega, by rw [List.replicate_zero, List.append_nil]⟩
  case case3 h1 h2 => exact ⟨_, by omega, rfl⟩

theorem allocSegments_rest (s : Stages) (x : Nat) : Rest s (s.allocSegments x) := by
  obtain ⟨n, _, e⟩ := allocSegments_eq s x
  rw [e]; exact ⟨rfl, rfl, rfl, rfl, rfl, rfl, rfl⟩

theorem allocSegments_wf (s : Stages) (x : Nat) (h : s.WF) : (s.allocSegments x).WF := by
  obtain ⟨n, _, e⟩ := allocSegments_eq s x
  rw [e]
  intro r hr
  rcases List.mem_append.1 hr with hr | hr
  · exact h r hr
  · rw [List.eq_of_mem_replicate hr]; exact List.length_replicate

theorem allocSegments_length_le (s : Stages) (x : Nat) : s.states.length ≤ (s.allocSegments x).states.length := by
  obtain ⟨n, _, e⟩ := allocSegments_eq s x
  rw [e]; simp

theorem allocSegments_covers (s : Stages) (x : Nat) : x < s.offset + (s.allocSegments x).states.length := by
  obtain ⟨n, hn, e⟩ := allocSegments_eq s x
  rw [e]; simpa using hn

theorem allocSegments_matGet (s : Stages) (x i j : Nat) (hi : i < s.states.length) :
    matGet (s.allocSegments x).states i j = matGet s.states i j := by
  obtain ⟨n, _, e⟩ := allocSegments_eq s x
  rw [e]; simp only [matGet, List.getD_eq_getElem?_getD, List.getElem?_append_left hi]

theorem allocSegments_matGet_new (s : Stages) (x i j : Nat) (hi : s.states.length ≤ i) :
    matGet (s.allocSegments x).states i j = .pending := by
  obtain ⟨n, _, e⟩ := allocSegments_eq s x
  rw [e]
  simp only [matGet, List.getD_eq_getElem?_getD, List.getElem?_append_right hi, List.getElem?_replicate]
  split
  · rw [Option.getD_some, List.getElem?_replicate]; split <;> rfl
  · rfl
theorem getState_allocSegments (s : Stages) (x seg stg : Nat) : (s.allocSegments x).getState seg stg =
    if s.offset + s.states.length ≤ seg ∧ seg < s.offset + (s.allocSegments x).states.length ∧ Below s seg stg then .noOp
    else s.getState seg stg := by
  have hr := allocSegments_rest s x
  have hle := allocSegments_length_le s x
  by_cases h : seg < s.offset + s.states.length
  · rw [if_neg (fun hc => Nat.not_le_of_gt h hc.1)]
    exact hr.getState_old h hle fun ho => allocSegments_matGet s x _ _ (by omega)
  · rw [getState_beyond stg (Nat.le_of_not_lt h)]
    by_cases h2 : seg < s.offset + (s.allocSegments x).states.length
    · rw [hr.getState_row stg h2]
      by_cases hb : Below s seg stg
      · rw [if_pos (.inr hb), if_pos ⟨Nat.le_of_not_lt h, h2, hb⟩]
      · rw [if_neg (fun hc => hc.elim (by omega) hb), if_neg (fun hc => hb hc.2.2), allocSegments_matGet_new s x _ _ (by omega)]
    · rw [if_neg (fun hc => h2 hc.2.1), hr.getState_beyond stg (Nat.le_of_not_lt h2)]

theorem getState_alloc (s : Stages) (x seg stg : Nat) :
    (s.allocSegments x).getState seg stg = s.getState seg stg ∨
    (s.getState seg stg = .pending ∧ (s.allocSegments x).getState seg stg = .noOp) := by
  rw [getState_allocSegments]
  split
  · rename_i hc; exact .inr ⟨getState_beyond stg hc.1, rfl⟩
  · exact .inl rfl

theorem getState_allocSegments_of_ne_pending (s : Stages) (x seg stg : Nat) (h : s.getState seg stg ≠ .pending) :
    (s.allocSegments x).getState seg stg = s.getState seg stg :=
  (getState_alloc s x seg stg).resolve_right fun hc => h hc.1

theorem getState_allocSegments_of_pending (s : Stages) (x seg stg : Nat) (hp : s.getState seg stg = .pending)
    (hfirst : (s.stageAt stg).seg.firstIndex ≤ seg) : (s.allocSegments x).getState seg stg = .pending := by
  rw [getState_allocSegments, if_neg (fun hc => Nat.not_lt_of_le hfirst hc.2.2.2), hp]

/-! ### transition -/

theorem transition_eq (s : Stages) (u : WorkUnit) (to : UnitState) (al : List UnitState) :
    s.transition u to al =
      if (s.allocSegments u.seg).getState u.seg u.stage ∈ al then (s.allocSegments u.seg).setState u.seg u.stage to
      else .error (.invalidTransition ((s.allocSegments u.seg).getState u.seg u.stage) to) := by
  simp only [transition, List.contains_iff_mem]

theorem transition_ok {s s' : Stages} {u : WorkUnit} {to : UnitState} {al : List UnitState}
    (h : s.transition u to al = .ok s') :
    (s.allocSegments u.seg).getState u.seg u.stage ∈ al ∧ (s.allocSegments u.seg).setState u.seg u.stage to = .ok s' := by
  rw [transition_eq] at h
  split at h
  · exact ⟨‹_›, h⟩
  · cases h

theorem transition_rest {s s' : Stages} {u : WorkUnit} {to : UnitState} {al : List UnitState}
    (h : s.transition u to al = .ok s') : Rest s s' :=
  (allocSegments_rest s u.seg).trans (setState_rest (transition_ok h).2)

theorem transition_wf {s s' : Stages} {u : WorkUnit} {to : UnitState} {al : List UnitState}
    (h : s.transition u to al = .ok s') (hw : s.WF) : s'.WF :=
  setState_wf (transition_ok h).2 (allocSegments_wf s u.seg hw)

theorem transition_allocated {s s' : Stages} {u : WorkUnit} {to : UnitState} {al : List UnitState}
    (h : s.transition u to al = .ok s') {seg : Nat} (ha : seg < s.offset + s.states.length) :
    seg < s'.offset + s'.states.length := by
  rw [(transition_rest h).offset, setState_length (transition_ok h).2]
  exact Nat.lt_of_lt_of_le ha (Nat.add_le_add_left (allocSegments_length_le s u.seg) _)

/-- second case: below the stage's first segment the cell read NoOp after the allocation (so NoOp was allowed) and still does -/
theorem transition_target {s s' : Stages} {u : WorkUnit} {to : UnitState} {al : List UnitState}
    (h : s.transition u to al = .ok s') (hw : s.WF) :
    s'.getState u.seg u.stage = to ∨
    (s'.getState u.seg u.stage = .noOp ∧ (s.allocSegments u.seg).getState u.seg u.stage = .noOp) := by
  have h2 := (transition_ok h).2
  have hok := (setState_inv h2).1
  rw [getState_setState_same h2 (allocSegments_wf s u.seg hw)]
  split
  · rename_i hb; exact .inr ⟨rfl, getState_below (by omega) hb⟩
  · exact .inl rfl

theorem transition_target_eq {s s' : Stages} {u : WorkUnit} {to : UnitState} {al : List UnitState}
    (h : s.transition u to al = .ok s') (hw : s.WF) (hno : .noOp ∉ al) : s'.getState u.seg u.stage = to :=
  (transition_target h hw).resolve_right fun hc => hno (hc.2 ▸ (transition_ok h).1)

theorem transition_succeeds (s : Stages) (u : WorkUnit) (to : UnitState) (al : List UnitState)
    (hseg : s.offset ≤ u.seg) (hstg : u.stage < s.nStages)
    (hal : (s.allocSegments u.seg).getState u.seg u.stage ∈ al) : ∃ s', s.transition u to al = .ok s' := by
  have hr := allocSegments_rest s u.seg
  rw [transition_eq, if_pos hal]
  exact (setState_ok_iff _ _ _ _).2 ⟨by rw [hr.offset]; exact hseg, by have := allocSegments_covers s u.seg; rw [hr.offset]; omega,
    by rw [hr.nStages]; exact hstg⟩
/-- the state is a variable with an equation, so that for a concrete `x` and `al` the side condition is `by decide` -/
theorem transition_succeeds_of_state (s : Stages) (hw : s.WF) (u : WorkUnit) (to : UnitState) (al : List UnitState)
    {x : UnitState} (hx : s.getState u.seg u.stage = x) (h : x ≠ .pending ∧ x ≠ .noOp ∧ x ∈ al) :
    ∃ s', s.transition u to al = .ok s' := by
  subst hx
  have hr := in_range_of_state s hw u.seg u.stage h.1 h.2.1
  exact transition_succeeds s u to al hr.1 hr.2.2 (by rw [getState_allocSegments_of_ne_pending s u.seg u.seg u.stage h.1]; exact h.2.2)

/-! ### which cells an operation may change

`Step T` lets Pending cells become anything (`NextJob` schedules, shadows and completes them); `TStep T` is for operations
that touch their targets only: outside `T` an allocation may still turn Pending into NoOp, nothing else, so a cell can
also be read backwards (`TStep.back`). -/

structure Step (T : Nat → Nat → Prop) (s s' : Stages) : Prop where
  rest  : Rest s s'
  wf    : s.WF → s'.WF
  frame : ∀ seg stg, ¬T seg stg → s.getState seg stg ≠ .pending → s'.getState seg stg = s.getState seg stg

/-- only Pending cells changed -/
abbrev PStep (s s' : Stages) : Prop := Step (fun _ _ => False) s s'

theorem Step.refl (T : Nat → Nat → Prop) (s : Stages) : Step T s s := ⟨Rest.refl s, id, fun _ _ _ _ => rfl⟩

theorem Step.trans {T : Nat → Nat → Prop} {a b c : Stages} (h1 : Step T a b) (h2 : Step T b c) : Step T a c := by
  refine ⟨h1.rest.trans h2.rest, fun h => h2.wf (h1.wf h), ?_⟩
  intro seg stg hT hp
  have e1 := h1.frame seg stg hT hp
  rw [h2.frame seg stg hT (by rw [e1]; exact hp), e1]

theorem Step.mono {T T' : Nat → Nat → Prop} {a b : Stages} (h : Step T a b) (hTT : ∀ x y, T x y → T' x y) : Step T' a b :=
  ⟨h.rest, h.wf, fun seg stg hT hp => h.frame seg stg (fun hc => hT (hTT _ _ hc)) hp⟩

structure TStep (T : Nat → Nat → Prop) (s s' : Stages) : Prop where
  rest  : Rest s s'
  wf    : s.WF → s'.WF
  frame : ∀ seg stg, ¬T seg stg →
    s'.getState seg stg = s.getState seg stg ∨ (s.getState seg stg = .pending ∧ s'.getState seg stg = .noOp)

theorem TStep.refl (T : Nat → Nat → Prop) (s : Stages) : TStep T s s := ⟨Rest.refl s, id, fun _ _ _ => Or.inl rfl⟩

theorem TStep.trans {T : Nat → Nat → Prop} {a b c : Stages} (h1 : TStep T a b) (h2 : TStep T b c) : TStep T a c := by
  refine ⟨h1.rest.trans h2.rest, fun h => h2.wf (h1.wf h), ?_⟩
  intro seg stg hT
  rcases h1.frame seg stg hT with e1 | ⟨e1, e1'⟩ <;> rcases h2.frame seg stg hT with e2 | ⟨e2, e2'⟩
  · left; rw [e2, e1]
  · right; exact ⟨by rw [← e1]; exact e2, e2'⟩
  · right; exact ⟨e1, by rw [e2]; exact e1'⟩
  · rw [e1'] at e2; cases e2

theorem TStep.mono {T T' : Nat → Nat → Prop} {a b : Stages} (h : TStep T a b) (hTT : ∀ x y, T x y → T' x y) : TStep T' a b :=
  ⟨h.rest, h.wf, fun seg stg hT => h.frame seg stg (fun hc => hT (hTT _ _ hc))⟩

theorem TStep.step {T : Nat → Nat → Prop} {a b : Stages} (h : TStep T a b) : Step T a b := by
  refine ⟨h.rest, h.wf, ?_⟩
  intro seg stg hT hp
  rcases h.frame seg stg hT with e | ⟨e, _⟩
  · exact e
  · exact absurd e hp

theorem TStep.back {T : Nat → Nat → Prop} {a b : Stages} (h : TStep T a b) {seg stg : Nat} (hT : ¬T seg stg)
    (hn : b.getState seg stg ≠ .noOp) : a.getState seg stg = b.getState seg stg := by
  rcases h.frame seg stg hT with e | ⟨_, e⟩
  · exact e.symm
  · exact absurd e hn

theorem transition_tstep {s s' : Stages} {u : WorkUnit} {to : UnitState} {al : List UnitState}
    (h : s.transition u to al = .ok s') : TStep (fun seg stg => seg = u.seg ∧ stg = u.stage) s s' := by
  refine ⟨transition_rest h, transition_wf h, fun seg stg hT => ?_⟩
  rw [getState_setState_other (transition_ok h).2 seg stg hT]
  exact getState_alloc s u.seg seg stg

theorem allocSegments_pstep (s : Stages) (x : Nat) : PStep s (s.allocSegments x) :=
  ⟨allocSegments_rest s x, allocSegments_wf s x, fun seg stg _ hp => getState_allocSegments_of_ne_pending s x seg stg hp⟩

theorem transition_step {s s' : Stages} {u : WorkUnit} {to : UnitState} {al : List UnitState}
    (h : s.transition u to al = .ok s') : Step (fun seg stg => seg = u.seg ∧ stg = u.stage) s s' :=
  (transition_tstep h).step

theorem transition_pstep {s s' : Stages} {u : WorkUnit} {to : UnitState} {al : List UnitState}
    (h : s.transition u to al = .ok s') (hp : s.getState u.seg u.stage = .pending) : PStep s s' := by
  refine ⟨transition_rest h, transition_wf h, fun seg stg _ hne => ?_⟩
  by_cases hc : seg = u.seg ∧ stg = u.stage
  · rw [hc.1, hc.2] at hne; exact absurd hp hne
  · exact (transition_step h).frame seg stg hc hne

theorem setState_pstep {s s' : Stages} {seg stg : Nat} {v : UnitState} (h : s.setState seg stg v = .ok s') (hw : s.WF)
    (hv : s.getState seg stg = .pending ∨ s.getState seg stg = v) : PStep s s' := by
  refine ⟨setState_rest h, fun _ => setState_wf h hw, fun seg' stg' _ hp => ?_⟩
  by_cases hc : seg' = seg ∧ stg' = stg
  · rw [hc.1, hc.2] at hp ⊢
    rw [getState_setState_same h hw]
    split
    · rename_i hb
      have hok := (setState_inv h).1
      exact (getState_below (by omega) hb).symm
    · exact (hv.resolve_left hp).symm
  · exact getState_setState_other h seg' stg' hc

/-! ### markShadowedUnits -/

theorem markShadowedLoop_pstep {fix : Patch} (hf : fix.shadow = true) {seg k : Nat} {s s' : Stages} {sh sh' : Bool} (hw : s.WF)
    (h : markShadowedLoop fix seg k s sh = .ok (s', sh')) : PStep s s' := by
  fun_induction markShadowedLoop fix seg k s sh
  case case1 => cases h; exact Step.refl _ _
  case case2 => cases h; exact Step.refl _ _
  case case3 => cases h
  case case4 hc s1 hs1 ih =>
    -- the patched condition shadows a Pending or Shadowed unit only
    simp only [shadowCond, hf, if_true, Bool.and_eq_true, Bool.or_eq_true, beq_iff_eq] at hc
    exact (setState_pstep hs1 hw hc.1).trans (ih (setState_wf hs1 hw) h)
  case case5 ih => exact ih hw h

theorem markShadowedUnits_pstep {fix : Patch} (hf : fix.shadow = true) {s s' : Stages} {seg : Nat} {sh : Bool}
    (hw : s.WF) (h : s.markShadowedUnits fix seg = .ok (s', sh)) : PStep s s' := by
  unfold markShadowedUnits at h
  split at h
  · injection h with h; injection h with h1 h2; subst h1; exact Step.refl _ _
  · exact (allocSegments_pstep s seg).trans (markShadowedLoop_pstep hf (allocSegments_wf s seg hw) h)

theorem markShadowedLoop_rest {fix : Patch} {seg k : Nat} {s s' : Stages} {sh sh' : Bool}
    (h : markShadowedLoop fix seg k s sh = .ok (s', sh')) : Rest s s' ∧ s'.states.length = s.states.length := by
  fun_induction markShadowedLoop fix seg k s sh
  case case1 => cases h; exact ⟨Rest.refl _, rfl⟩
  case case2 => cases h; exact ⟨Rest.refl _, rfl⟩
  case case3 => cases h
  case case4 s1 hs1 ih => exact ⟨(setState_rest hs1).trans (ih h).1, (ih h).2.trans (setState_length hs1)⟩
  case case5 ih => exact ih h

theorem markShadowedUnits_allocated {fix : Patch} {s s' : Stages} {seg : Nat} {sh : Bool}
    (h : s.markShadowedUnits fix seg = .ok (s', sh)) (hsh : sh = true) : seg < s'.offset + s'.states.length := by
  unfold markShadowedUnits at h
  split at h
  · injection h with h; injection h with h1 h2; subst h2; cases hsh
  · have hl := markShadowedLoop_rest h
    rw [hl.1.offset, hl.2, (allocSegments_rest s seg).offset]
    exact allocSegments_covers s seg

/-! ### dependenciesCompleted -/

theorem depsLoopFix_spec (s : Stages) (seg : Nat) (k : Nat) (h : depsLoopFix s seg k = true) :
    ∀ i, i < k → (seg < (s.stageAt i).seg.firstIndex ∨
      (((s.stageAt i).seg.firstIndex < seg → s.previousUnitComplete ⟨seg, i⟩ = true) ∧
       (s.getState seg i = .completed ∨ s.getState seg i = .noOp ∨ s.getState seg i = .shadowed ∨
        s.getState seg i = .partialPresent))) := by
  -- one more stage: the loop went on past stage `k` because of `hk`
  have step : ∀ {k : Nat} {P : Nat → Prop}, P k → (∀ i, i < k → P i) → ∀ i, i < k + 1 → P i := by
    intro k P hk ih i hi
    by_cases hik : i = k
    · rw [hik]; exact hk
    · exact ih i (by omega)
  have prev : ∀ {k : Nat}, ¬(decide (seg > (s.stageAt k).seg.firstIndex) && !s.previousUnitComplete ⟨seg, k⟩) = true →
      (s.stageAt k).seg.firstIndex < seg → s.previousUnitComplete ⟨seg, k⟩ = true := by
    intro k hp hgt
    simpa [hgt] using hp
  fun_induction depsLoopFix s seg k
  case case1 => intro i hi; omega
  case case2 hlt ih => exact step (.inl hlt) (ih h)
  case case3 => cases h
  case case4 hp hst ih => exact step (.inr ⟨prev hp, .inl hst⟩) (ih h)
  case case5 hp hst ih => exact step (.inr ⟨prev hp, .inr (.inl hst)⟩) (ih h)
  case case6 hp hst ih => exact step (.inr ⟨prev hp, .inr (.inr (.inl hst))⟩) (ih h)
  case case7 hp hst ih => exact step (.inr ⟨prev hp, .inr (.inr (.inr hst))⟩) (ih h)
  case case8 => cases h

/-! ### NextJob -/

theorem firstPending_some {s : Stages} {seg fuel i j : Nat} (h : firstPending s seg fuel i = some j) :
    s.getState seg j = .pending ∧ i ≤ j ∧ j < i + fuel := by
  fun_induction firstPending s seg fuel i
  case case1 => cases h
  case case2 fuel i hp => cases h; exact ⟨hp, Nat.le_refl _, by omega⟩
  case case3 ih => have := ih h; exact ⟨this.1, by omega, by omega⟩

theorem firstPending_min {s : Stages} {seg fuel i j : Nat} (h : firstPending s seg fuel i = some j) :
    ∀ x, i ≤ x → x < j → s.getState seg x ≠ .pending := by
  fun_induction firstPending s seg fuel i
  case case1 => cases h
  case case2 => cases h; intro x h1 h2; omega
  case case3 fuel i hp ih =>
    intro x h1 h2
    by_cases hx : x = i
    · rw [hx]; exact hp
    · exact ih h x (by omega) h2

/-- `s0` is the matrix at the moment of the choice, `k` the stage the inner loop stood at.  The unit handed out is that one
or, when `k` is the top stage and `markShadowedUnits` has shadowed something, the first Pending unit of the column; the row
of the segment is then allocated, which `Chosen.at_choice` needs. -/
def Chosen (fix : Patch) (s s' : Stages) (u : WorkUnit) (r : Range) : Prop :=
  ∃ (s0 : Stages) (k : Nat), PStep s s0 ∧ s0.WF ∧ k < s0.nStages ∧
    s0.getState u.seg k = .pending ∧ dependenciesCompleted fix s0 ⟨u.seg, k⟩ = true ∧
    (s0.stageAt k).seg.firstIndex ≤ u.seg ∧ u.seg ≤ (s0.stageAt k).seg.lastIndex ∧
    (s0.stageAt k).seg.range? u.seg = some r ∧ r.stop - r.start ≠ 0 ∧
    (u.stage = k ∨ (k + 1 = s0.nStages ∧ firstPending s0 u.seg s0.nStages 0 = some u.stage ∧
      u.seg < s0.offset + s0.states.length)) ∧
    s0.getState u.seg u.stage = .pending ∧ u.stage < s0.nStages ∧ s0.markSegmentScheduled u = .ok s'

theorem Chosen.after {fix : Patch} {s s1 s' : Stages} {u : WorkUnit} {r : Range} (h1 : PStep s s1)
    (h : Chosen fix s1 s' u r) : Chosen fix s s' u r := by
  obtain ⟨s0, k, hp, rest⟩ := h
  exact ⟨s0, k, h1.trans hp, rest⟩

theorem Chosen.pstep {fix : Patch} {s s' : Stages} {u : WorkUnit} {r : Range} (h : Chosen fix s s' u r) : PStep s s' := by
  obtain ⟨s0, k, hp0, _, _, _, _, _, _, _, _, _, hpu, _, hs'⟩ := h
  exact hp0.trans (transition_pstep hs' hpu)

theorem Chosen.scheduled {fix : Patch} {s s' : Stages} {u : WorkUnit} {r : Range} (h : Chosen fix s s' u r) :
    s'.getState u.seg u.stage = .scheduled := by
  obtain ⟨s0, k, _, hw0, _, _, _, _, _, _, _, _, _, _, hs'⟩ := h
  exact transition_target_eq hs' hw0 (by simp)

theorem Chosen.was_pending {fix : Patch} {s s' : Stages} {u : WorkUnit} {r : Range} (h : Chosen fix s s' u r) :
    s.getState u.seg u.stage = .pending := by
  obtain ⟨s0, k, hp0, _, _, _, _, _, _, _, _, _, hpu, _, _⟩ := h
  by_cases hc : s.getState u.seg u.stage = .pending
  · exact hc
  · have := hp0.frame u.seg u.stage (fun x => x) hc
    rw [this] at hpu; exact absurd hpu hc

/-- in both cases of `Chosen` the unit handed out is the one whose dependencies were checked -/
theorem Chosen.at_choice {fix : Patch} {s s' : Stages} {u : WorkUnit} {r : Range} (hd : fix.deps = true)
    (h : Chosen fix s s' u r) : ∃ s0, PStep s s0 ∧ s0.WF ∧ s0.getState u.seg u.stage = .pending ∧
      dependenciesCompleted fix s0 u = true ∧ s0.markSegmentScheduled u = .ok s' := by
  obtain ⟨s0, k, hp0, hw0, hk, hpk, hdeps, hfirst, hlast, hr, hne, hor, hpu, hlt, hs'⟩ := h
  refine ⟨s0, hp0, hw0, hpu, ?_, hs'⟩
  have hk' : u.stage = k := by
    rcases hor with e | ⟨hk1, hfp, hal⟩
    · exact e
    · -- `firstPending` answers the top stage: a Pending unit below it would have failed the dependency check of (seg, k)
      have hle : u.stage ≤ k := Nat.le_of_not_lt fun hc => firstPending_min hfp k (Nat.zero_le _) hc hpk
      refine Nat.le_antisymm hle (Nat.le_of_not_lt fun hc => ?_)
      unfold dependenciesCompleted at hdeps
      simp only [hd, if_true] at hdeps
      split at hdeps
      · omega
      · rcases depsLoopFix_spec s0 u.seg k hdeps u.stage hc with hb | ⟨_, hst⟩
        · have := first_le_of_pending_allocated hpu (stages_ne_nil hk) hal
          omega
        · rw [hpu] at hst; simp at hst
  subst hk'
  exact hdeps

structure Ready (fix : Patch) (s : Stages) (seg k : Nat) : Prop where
  pending  : s.getState seg k = .pending
  first_le : (s.stageAt k).seg.firstIndex ≤ seg
  le_last  : seg ≤ (s.stageAt k).seg.lastIndex
  deps     : dependenciesCompleted fix s ⟨seg, k⟩ = true

/-- the graph of `nextJobStages fix seg sh`, one constructor per outcome of the loop body (`skip`: its three guards that
go on to the next stage) -/
inductive StagesRun (fix : Patch) (seg : Nat) (sh : Bool) : Nat → Stages → Except Err StageStep → Prop
  | done (s) : StagesRun fix seg sh 0 s (.ok (.next s))
  | skip {k s out} : (s.getState seg k ≠ .pending ∨ seg < (s.stageAt k).seg.firstIndex ∨
        dependenciesCompleted fix s ⟨seg, k⟩ = false) → StagesRun fix seg sh k s out → StagesRun fix seg sh (k + 1) s out
  | stop {k s} : (s.stageAt k).seg.lastIndex < seg → StagesRun fix seg sh (k + 1) s (.ok (.next s))
  | nilRange {k s} : Ready fix s seg k → (s.stageAt k).seg.range? seg = none → StagesRun fix seg sh (k + 1) s (.error .nilRange)
  | complete {k s r s1 out} : Ready fix s seg k → (s.stageAt k).seg.range? seg = some r → r.stop - r.start = 0 →
      s.markSegmentCompleted ⟨seg, k⟩ = .ok s1 → StagesRun fix seg sh k s1 out → StagesRun fix seg sh (k + 1) s out
  | completeErr {k s e} : Ready fix s seg k → s.markSegmentCompleted ⟨seg, k⟩ = .error e →
      StagesRun fix seg sh (k + 1) s (.error e)
  | schedule {k s r i s'} : Ready fix s seg k → (s.stageAt k).seg.range? seg = some r → r.stop - r.start ≠ 0 →
      (i = k ∨ (sh = true ∧ k + 1 = s.nStages ∧ firstPending s seg s.nStages 0 = some i)) →
      s.markSegmentScheduled ⟨seg, i⟩ = .ok s' → StagesRun fix seg sh (k + 1) s (.ok (.found s' ⟨seg, i⟩ r))
  | scheduleErr {k s i e} : Ready fix s seg k →
      (i = k ∨ (sh = true ∧ k + 1 = s.nStages ∧ firstPending s seg s.nStages 0 = some i)) →
      s.markSegmentScheduled ⟨seg, i⟩ = .error e → StagesRun fix seg sh (k + 1) s (.error e)

theorem nextJobStages_run (fix : Patch) (seg : Nat) (sh : Bool) (k : Nat) (s : Stages) :
    StagesRun fix seg sh k s (nextJobStages fix seg sh k s) := by
  -- the four guards of the loop body, negated, in its order
  have ready : ∀ {k s}, ¬ s.getState seg k ≠ .pending → ¬ seg < (s.stageAt k).seg.firstIndex →
      ¬ seg > (s.stageAt k).seg.lastIndex → ¬ (!dependenciesCompleted fix s ⟨seg, k⟩) = true → Ready fix s seg k :=
    fun hp hf hl hd => ⟨Decidable.not_not.1 hp, Nat.le_of_not_lt hf, Nat.le_of_not_lt hl, by simpa using hd⟩
  fun_induction nextJobStages fix seg sh k s with
  | case1 s => exact .done s
  | case2 k s hp ih => exact .skip (.inl hp) ih
  | case3 k s _ _ hf ih => exact .skip (.inr (.inl hf)) ih
  | case4 k s _ _ _ hl => exact .stop hl
  | case5 k s _ _ _ _ hd ih => exact .skip (.inr (.inr (by simpa using hd))) ih
  | case6 k s _ hp hf hl hd hr => exact .nilRange (ready hp hf hl hd) hr
  | case7 k s _ hp hf hl hd r _ _ e he => exact .completeErr (ready hp hf hl hd) he
  | case8 k s _ hp hf hl hd r hr h0 s1 hs1 ih => exact .complete (ready hp hf hl hd) hr h0 hs1 ih
  | case9 k s _ hp hf hl hd r _ _ hsh i hi e he => exact .scheduleErr (ready hp hf hl hd) (.inr ⟨hsh.1, hsh.2, hi⟩) he
  | case10 k s _ hp hf hl hd r hr h0 hsh i hi s' hs' =>
    exact .schedule (ready hp hf hl hd) hr h0 (.inr ⟨hsh.1, hsh.2, hi⟩) hs'
  | case11 k s _ hp hf hl hd r _ _ _ _ e he => exact .scheduleErr (ready hp hf hl hd) (.inl rfl) he
  | case12 k s _ hp hf hl hd r hr h0 _ _ s' hs' => exact .schedule (ready hp hf hl hd) hr h0 (.inl rfl) hs'
  | case13 k s _ hp hf hl hd r _ _ _ e he => exact .scheduleErr (ready hp hf hl hd) (.inl rfl) he
  | case14 k s _ hp hf hl hd r hr h0 _ s' hs' => exact .schedule (ready hp hf hl hd) hr h0 (.inl rfl) hs'

theorem StagesRun.preserves {fix : Patch} {seg : Nat} {sh : Bool} {k : Nat} {s : Stages} {out : Except Err StageStep}
    {P : Stages → Prop} (hP : ∀ {s s' : Stages} {i : Nat} {to : UnitState} {al : List UnitState},
      P s → s.transition ⟨seg, i⟩ to al = .ok s' → P s')
    (h : StagesRun fix seg sh k s out) : P s → ∀ res, out = .ok res →
      match res with
      | .next s' => P s'
      | .found s' _ _ => P s' := by
  induction h with
  | done s => intro hs res e; cases e; exact hs
  | stop _ => intro hs res e; cases e; exact hs
  | skip _ _ ih => exact ih
  | nilRange _ _ => intro _ res e; cases e
  | completeErr _ _ => intro _ res e; cases e
  | scheduleErr _ _ _ => intro _ res e; cases e
  | complete _ _ _ hs1 _ ih => intro hs; exact ih (hP hs hs1)
  | schedule _ _ _ _ hs' => intro hs res e; cases e; exact hP hs hs'

/-- the hypothesis about `sh` is what `Chosen` records when the unit is found by `firstPending`; the caller has it from
`markShadowedUnits` -/
theorem StagesRun.sound {fix : Patch} {seg : Nat} {sh : Bool} {k : Nat} {s : Stages} {out : Except Err StageStep}
    (h : StagesRun fix seg sh k s out) : s.WF → k ≤ s.nStages → (sh = true → seg < s.offset + s.states.length) →
      ∀ res, out = .ok res →
        match res with
        | .next s' => PStep s s'
        | .found s' u r => Chosen fix s s' u r := by
  induction h with
  | done s => intro _ _ _ res e; cases e; exact Step.refl _ _
  | stop _ => intro _ _ _ res e; cases e; exact Step.refl _ _
  | skip _ _ ih => intro hw hk; exact ih hw (Nat.le_of_succ_le hk)
  | nilRange _ _ => intro _ _ _ res e; cases e
  | completeErr _ _ => intro _ _ _ res e; cases e
  | scheduleErr _ _ _ => intro _ _ _ res e; cases e
  | @complete k s r s1 out hr _ _ hs1 _ ih =>
    intro hw hk hal res e
    have st1 : PStep s s1 := transition_pstep hs1 hr.pending
    have := ih (st1.wf hw) (by rw [st1.rest.nStages]; exact Nat.le_of_succ_le hk) (fun hsh => transition_allocated hs1 (hal hsh)) res e
    cases res with
    | next s' => exact st1.trans this
    | found s' u r' => exact this.after st1
  | @schedule k s r i s' hr hrng hne hi hs' =>
    intro hw hk hal res e
    cases e
    have hfp : s.getState seg i = .pending ∧ i < s.nStages := by
      rcases hi with e | ⟨_, _, hi⟩
      · rw [e]; exact ⟨hr.pending, hk⟩
      · have := firstPending_some hi; exact ⟨this.1, by omega⟩
    exact ⟨s, k, Step.refl _ _, hw, hk, hr.pending, hr.deps, hr.first_le, hr.le_last, hrng, hne,
      hi.imp_right fun h => ⟨h.2.1, h.2.2, hal h.1⟩, hfp.1, hfp.2, hs'⟩

/-- both cases unfold by `rfl` -/
def JobPost (fix : Patch) (s s' : Stages) : Option (WorkUnit × Range) → Prop
  | none => PStep s s'
  | some (u, r) => Chosen fix s s' u r

theorem JobPost.pstep {fix : Patch} {s s' : Stages} {res : Option (WorkUnit × Range)} (h : JobPost fix s s' res) :
    PStep s s' := by
  cases res with
  | none => exact h
  | some p => exact Chosen.pstep h

theorem nextJobSegs_iter {fix : Patch} (hf : fix.shadow = true) {seg : Nat} {s s1 : Stages} {sh : Bool} {res : StageStep}
    (hw : s.WF) (h1 : s.markShadowedUnits fix seg = .ok (s1, sh))
    (h2 : nextJobStages fix seg sh s1.nStages s1 = .ok res) :
    match res with
    | .next s2 => PStep s s2
    | .found s2 u r => Chosen fix s s2 u r := by
  have st1 := markShadowedUnits_pstep hf hw h1
  have run := (nextJobStages_run fix seg sh s1.nStages s1).sound (st1.wf hw) (Nat.le_refl _)
    (markShadowedUnits_allocated h1) res h2
  cases res with
  | next s2 => exact st1.trans run
  | found s2 u r => exact run.after st1

theorem nextJobSegs_spec {fix : Patch} (hf : fix.shadow = true) {fuel seg : Nat} {s s' : Stages}
    {res : Option (WorkUnit × Range)} (hw : s.WF) (h : nextJobSegs fix fuel seg s = .ok (s', res)) :
    JobPost fix s s' res := by
  fun_induction nextJobSegs fix fuel seg s
  case case1 => cases h; exact Step.refl _ _
  case case2 => cases h
  case case3 => cases h
  case case4 h1 _ _ _ h2 => cases h; exact nextJobSegs_iter hf hw h1 h2
  case case5 h1 _ h2 ih =>
    have st12 : PStep _ _ := nextJobSegs_iter hf hw h1 h2
    have post := ih (st12.wf hw) h
    cases res with
    | none => exact st12.trans post
    | some p => exact Chosen.after st12 post

theorem nextJob_spec {fix : Patch} (hf : fix.shadow = true) {s s' : Stages} {res : Option (WorkUnit × Range)} (hw : s.WF)
    (h : s.nextJob fix = .ok (s', res)) : JobPost fix s s' res :=
  nextJobSegs_spec hf hw h

/-! ### no panic in NextJob -/

theorem markShadowedLoop_ok {fix : Patch} {seg k : Nat} {s : Stages} {sh : Bool} (ho : s.offset ≤ seg)
    (hl : seg < s.offset + s.states.length) (hk : k ≤ s.nStages) : ∃ r, markShadowedLoop fix seg k s sh = .ok r := by
  fun_induction markShadowedLoop fix seg k s sh
  case case1 => exact ⟨_, rfl⟩
  case case2 => exact ⟨_, rfl⟩
  case case3 k s _ _ _ e he =>
    obtain ⟨s1, hs1⟩ := (setState_ok_iff s seg k .shadowed).2 ⟨ho, by omega, by omega⟩
    rw [hs1] at he; cases he
  case case4 s1 hs1 ih =>
    have hr := setState_rest hs1
    exact ih (by rw [hr.offset]; exact ho) (by rw [hr.offset, setState_length hs1]; exact hl) (by rw [hr.nStages]; omega)
  case case5 ih => exact ih ho hl (by omega)

theorem markShadowedUnits_ok (fix : Patch) (s : Stages) (seg : Nat) (ho : s.offset ≤ seg) :
    ∃ r, s.markShadowedUnits fix seg = .ok r := by
  unfold markShadowedUnits
  split
  · exact ⟨_, rfl⟩
  · have hr := allocSegments_rest s seg
    exact markShadowedLoop_ok (by rw [hr.offset]; exact ho) (by rw [hr.offset]; exact allocSegments_covers s seg)
      (by omega)

theorem StagesRun.ok {fix : Patch} {seg : Nat} {sh : Bool} {k : Nat} {s : Stages} {out : Except Err StageStep}
    (h : StagesRun fix seg sh k s out) : s.WF → s.StagesOK → k ≤ s.nStages → s.offset ≤ seg →
      (sh = true → seg < s.offset + s.states.length) → ∃ res, out = .ok res := by
  -- a Pending unit at or above its stage's first segment can make any transition that is allowed from Pending
  have trans_ok : ∀ {s : Stages} {i : Nat} (to : UnitState) {al : List UnitState} {e : Err}, s.offset ≤ seg → i < s.nStages →
      s.getState seg i = .pending → (s.stageAt i).seg.firstIndex ≤ seg → .pending ∈ al →
      s.transition ⟨seg, i⟩ to al ≠ .error e := by
    intro s i to al e ho hi hp hf hal he
    obtain ⟨s', hs'⟩ := transition_succeeds s ⟨seg, i⟩ to al ho hi (by rw [getState_allocSegments_of_pending s seg seg i hp hf]; exact hal)
    rw [hs'] at he; cases he
  induction h with
  | done s => intros; exact ⟨_, rfl⟩
  | stop _ => intros; exact ⟨_, rfl⟩
  | schedule _ _ _ _ _ => intros; exact ⟨_, rfl⟩
  | skip _ _ ih => intro hw hok hk; exact ih hw hok (Nat.le_of_succ_le hk)
  | nilRange hr hn =>
    intro _ hok hk _ _
    obtain ⟨r, h⟩ := hok.range hk hr.first_le hr.le_last
    rw [h] at hn; cases hn
  | completeErr hr he => intro _ _ hk ho _; exact absurd he (trans_ok _ ho hk hr.pending hr.first_le (by simp))
  | @complete k s r s1 out hr _ _ hs1 _ ih =>
    intro hw hok hk ho hal
    have st1 := transition_rest hs1
    refine ih (transition_wf hs1 hw) (st1.stagesOK hok) (by rw [st1.nStages]; exact Nat.le_of_succ_le hk) (by rw [st1.offset]; exact ho) fun hsh => transition_allocated hs1 (hal hsh)
  | @scheduleErr k s i e hr hi he =>
    intro _ _ hk ho hal
    rcases hi with hi | ⟨hsh, hk1, hi⟩
    · rw [hi] at he; exact absurd he (trans_ok _ ho hk hr.pending hr.first_le (by simp))
    · have hfp := firstPending_some hi
      have hfi := first_le_of_pending_allocated hfp.1 (stages_ne_nil (k := i) (by omega)) (hal hsh)
      exact absurd he (trans_ok _ ho (by omega) hfp.1 hfi (by simp))

theorem nextJobSegs_ok {fix : Patch} (hf : fix.shadow = true) {fuel seg : Nat} {s : Stages} (hw : s.WF) (hok : s.StagesOK)
    (ho : s.offset ≤ seg) : ∃ res, nextJobSegs fix fuel seg s = .ok res := by
  fun_induction nextJobSegs fix fuel seg s
  case case1 => exact ⟨_, rfl⟩
  case case2 s _ he => obtain ⟨r, hr⟩ := markShadowedUnits_ok fix s _ ho; rw [hr] at he; cases he
  case case3 s s1 sh h1 _ he =>
    have st1 := markShadowedUnits_pstep hf hw h1
    obtain ⟨r, hr⟩ := (nextJobStages_run fix _ sh s1.nStages s1).ok (st1.wf hw) (st1.rest.stagesOK hok) (Nat.le_refl _)
      (by rw [st1.rest.offset]; exact ho) (markShadowedUnits_allocated h1)
    rw [hr] at he; cases he
  case case4 => exact ⟨_, rfl⟩
  case case5 h1 _ h2 ih =>
    have st12 : PStep _ _ := nextJobSegs_iter hf hw h1 h2
    exact ih (st12.wf hw) (st12.rest.stagesOK hok) (by rw [st12.rest.offset]; omega)

theorem nextJob_ok (fix : Patch) (hf : fix.shadow = true) (s : Stages) (hw : s.WF) (hok : s.StagesOK)
    (ho : s.offset ≤ s.globalSeg.firstIndex) : ∃ res, s.nextJob fix = .ok res :=
  nextJobSegs_ok hf hw hok ho

/-! ### MarkJobSuccess -/

theorem jobSuccessLoop_tstep {seg k : Nat} {s s' : Stages} {acc acc' : List WorkUnit}
    (h : jobSuccessLoop seg k s acc = .ok (s', acc')) :
    TStep (fun sg st => sg = seg ∧ st < k ∧ s.getState sg st = .shadowed) s s' := by
  fun_induction jobSuccessLoop seg k s acc with
  | case1 s acc => cases h; exact TStep.refl _ _
  | case2 k s acc hsh e he => cases h
  | case3 k s acc hsh s1 hs1 ih =>
    have t1 := transition_tstep hs1
    refine (t1.mono ?_).trans ((ih h).mono ?_)
    · intro x y hxy; rw [hxy.1, hxy.2]; exact ⟨rfl, Nat.lt_succ_self k, hsh⟩
    · intro x y hxy
      refine ⟨hxy.1, by omega, ?_⟩
      rw [t1.back (fun hc => by have : y = k := hc.2; omega) (by rw [hxy.2.2]; simp)]; exact hxy.2.2
  | case4 k s acc hsh ih => exact (ih h).mono fun x y hxy => ⟨hxy.1, by omega, hxy.2.2⟩

/-- `k = 0` when the segment is not shadowable: the loop then runs over no stage -/
theorem markJobSuccess_inv {s s' : Stages} {u : WorkUnit} {l : List WorkUnit} (h : s.markJobSuccess u = .ok (s', l)) :
    ∃ s1 k, k ≤ u.stage ∧ s.markSegmentPartialPresent u = .ok s1 ∧ jobSuccessLoop u.seg k s1 [] = .ok (s', l) := by
  revert h
  fun_cases markJobSuccess s u with
  | case1 e he => intro h; cases h
  | case2 s1 hs1 hsh => intro h; exact ⟨s1, u.stage, Nat.le_refl _, hs1, h⟩
  | case3 s1 hs1 hsh => intro h; exact ⟨s1, 0, Nat.zero_le _, hs1, h⟩

theorem markJobSuccess_tstep {s s' : Stages} {u : WorkUnit} {l : List WorkUnit} (h : s.markJobSuccess u = .ok (s', l)) :
    TStep (fun seg stg => seg = u.seg ∧ (stg = u.stage ∨ s.getState seg stg = .shadowed)) s s' := by
  obtain ⟨s1, k, hk, hs1, h2⟩ := markJobSuccess_inv h
  have t1 := transition_tstep hs1
  have t2 := jobSuccessLoop_tstep h2
  refine (t1.mono fun x y hxy => ⟨hxy.1, .inl hxy.2⟩).trans (t2.mono fun x y hxy => ⟨hxy.1, .inr ?_⟩)
  rw [t1.back (fun hc => by have := hc.2; omega) (by rw [hxy.2.2]; simp)]; exact hxy.2.2

theorem jobSuccessLoop_ok {seg k : Nat} {s : Stages} {acc : List WorkUnit} (hw : s.WF) :
    ∃ r, jobSuccessLoop seg k s acc = .ok r := by
  fun_induction jobSuccessLoop seg k s acc
  case case1 => exact ⟨_, rfl⟩
  case case2 k s _ hsh e he =>
    obtain ⟨s1, hs1⟩ := transition_succeeds_of_state s hw ⟨seg, k⟩ .partialPresent [.shadowed] hsh (by decide)
    rw [hs1] at he; cases he
  case case3 hs1 ih => exact ih (transition_wf hs1 hw)
  case case4 ih => exact ih hw

theorem markJobSuccess_ok (s : Stages) (u : WorkUnit) (hw : s.WF) (hs : s.getState u.seg u.stage = .scheduled) :
    ∃ r, s.markJobSuccess u = .ok r := by
  obtain ⟨s1, hs1⟩ := transition_succeeds_of_state s hw u .partialPresent [.scheduled, .pending] hs (by decide)
  unfold markJobSuccess markSegmentPartialPresent
  rw [hs1]
  simp only
  split
  · exact jobSuccessLoop_ok (transition_wf hs1 hw)
  · exact ⟨_, rfl⟩

theorem markJobSuccess_target {s s' : Stages} {u : WorkUnit} {l : List WorkUnit} (h : s.markJobSuccess u = .ok (s', l))
    (hw : s.WF) : s'.getState u.seg u.stage = .partialPresent := by
  obtain ⟨s1, k, hk, hs1, h2⟩ := markJobSuccess_inv h
  have e1 : s1.getState u.seg u.stage = .partialPresent := transition_target_eq hs1 hw (by simp)
  rcases (jobSuccessLoop_tstep h2).frame u.seg u.stage (fun hc => by have := hc.2.1; omega) with e | ⟨e, _⟩
  · rw [e, e1]
  · rw [e1] at e; cases e

/-! ### CmdTryMerge -/

theorem cmdTryMerge_cases (s : Stages) (i : Nat) :
    (∃ t, s.cmdTryMerge i = .ok (s, t) ∧ (∀ u, t ≠ .merge u) ∧ (t = .allStoresCompleted → s.allStoresCompleted = true)) ∨
    ((s.stageAt i).kind = .store ∧ (s.stageAt i).next ≤ (s.stageAt i).seg.lastIndex ∧
      s.getState (s.stageAt i).next (s.stageAt i).idx = .partialPresent ∧
      s.previousUnitComplete ⟨(s.stageAt i).next, (s.stageAt i).idx⟩ = true ∧
      s.cmdTryMerge i = (s.transition ⟨(s.stageAt i).next, (s.stageAt i).idx⟩ .merging [.partialPresent]).map
        (·, .merge ⟨(s.stageAt i).next, (s.stageAt i).idx⟩)) := by
  have merge : ∀ {u : WorkUnit} {r}, (!s.previousUnitComplete u) ≠ true → s.markSegmentMerging u = r →
      s.previousUnitComplete u = true ∧ s.transition u .merging [.partialPresent] = r := by
    intro u r hp hr
    have hp : s.previousUnitComplete u = true := by simpa using hp
    simp only [markSegmentMerging, hp, Bool.not_true, Bool.false_eq_true, if_false] at hr
    exact ⟨hp, hr⟩
  fun_cases cmdTryMerge s i with
  | case1 hall => exact .inl ⟨_, rfl, nofun, fun _ => hall⟩
  | case2 => exact .inl ⟨_, rfl, nofun, nofun⟩
  | case3 => exact .inl ⟨_, rfl, nofun, nofun⟩
  | case4 => exact .inl ⟨_, rfl, nofun, nofun⟩
  | case5 => exact .inl ⟨_, rfl, nofun, nofun⟩
  | case6 _ _ hk _ hl hp hprev _ he | case7 _ _ hk _ hl hp hprev _ he =>
    have := merge hprev he
    exact .inr ⟨Decidable.not_not.1 hk, Nat.le_of_not_gt hl, Decidable.not_not.1 hp, this.1, by rw [this.2]; rfl⟩

theorem cmdTryMerge_inv {s s' : Stages} {i : Nat} {t : TryMerge} (h : s.cmdTryMerge i = .ok (s', t)) :
    (s' = s ∧ ∀ u, t ≠ .merge u) ∨
    ((s.stageAt i).kind = .store ∧ (s.stageAt i).next ≤ (s.stageAt i).seg.lastIndex ∧
      s.getState (s.stageAt i).next (s.stageAt i).idx = .partialPresent ∧
      s.previousUnitComplete ⟨(s.stageAt i).next, (s.stageAt i).idx⟩ = true ∧
      t = .merge ⟨(s.stageAt i).next, (s.stageAt i).idx⟩ ∧
      s.transition ⟨(s.stageAt i).next, (s.stageAt i).idx⟩ .merging [.partialPresent] = .ok s') := by
  rcases cmdTryMerge_cases s i with ⟨t, e, ht, _⟩ | ⟨hk, hl, hp, hprev, e⟩
  · rw [e] at h; cases h; exact .inl ⟨rfl, ht⟩
  · rw [e] at h
    cases htr : s.transition ⟨(s.stageAt i).next, (s.stageAt i).idx⟩ .merging [.partialPresent] with
    | error e => rw [htr] at h; cases h
    | ok s1 => rw [htr] at h; cases h; exact .inr ⟨hk, hl, hp, hprev, rfl, rfl⟩

theorem cmdTryMerge_all {s s' : Stages} {i : Nat} (h : s.cmdTryMerge i = .ok (s', .allStoresCompleted)) :
    s.allStoresCompleted = true := by
  rcases cmdTryMerge_cases s i with ⟨t, e, _, hall⟩ | ⟨_, _, _, _, e⟩
  · rw [e] at h; cases h; exact hall rfl
  · rw [e] at h
    cases htr : s.transition ⟨(s.stageAt i).next, (s.stageAt i).idx⟩ .merging [.partialPresent] <;> rw [htr] at h <;> cases h

theorem cmdTryMerge_merge {s s' : Stages} {i : Nat} {u : WorkUnit} (h : s.cmdTryMerge i = .ok (s', .merge u)) (hw : s.WF) :
    u = ⟨(s.stageAt i).next, (s.stageAt i).idx⟩ ∧ (s.stageAt i).kind = .store ∧ u.seg ≤ (s.stageAt i).seg.lastIndex ∧
    s.getState u.seg u.stage = .partialPresent ∧ s.previousUnitComplete u = true ∧
    s'.getState u.seg u.stage = .merging ∧ TStep (fun seg stg => seg = u.seg ∧ stg = u.stage) s s' := by
  rcases cmdTryMerge_inv h with ⟨_, ht⟩ | ⟨hk, hl, hp, hprev, ht, htr⟩
  · exact absurd rfl (ht u)
  · cases ht
    exact ⟨rfl, hk, hl, hp, hprev, transition_target_eq htr hw (by simp), transition_tstep htr⟩

theorem cmdTryMerge_other {s s' : Stages} {i : Nat} {t : TryMerge} (h : s.cmdTryMerge i = .ok (s', t))
    (ht : ∀ u, t ≠ .merge u) : s' = s := by
  rcases cmdTryMerge_inv h with ⟨e, _⟩ | ⟨_, _, _, _, ht', _⟩
  · exact e
  · exact absurd ht' (ht _)

theorem cmdTryMerge_ok (s : Stages) (i : Nat) (hw : s.WF) : ∃ r, s.cmdTryMerge i = .ok r := by
  rcases cmdTryMerge_cases s i with ⟨t, e, _, _⟩ | ⟨_, _, hp, _, e⟩
  · exact ⟨_, e⟩
  · obtain ⟨s1, hs1⟩ := transition_succeeds_of_state s hw ⟨(s.stageAt i).next, (s.stageAt i).idx⟩ .merging [.partialPresent] hp (by decide)
    rw [e, hs1]; exact ⟨_, rfl⟩

/-! ### setStage

Used with a stage that keeps `seg` (and `idx`, `kind`): hence the hypotheses `hseg`, `h1`, `h2`. -/

theorem setStage_stageAt (s : Stages) (i j : Nat) (st : Stage) :
    (s.setStage i st).stageAt j = if i = j ∧ i < s.nStages then st else s.stageAt j := by
  unfold setStage stageAt nStages
  simp only [List.getD_eq_getElem?_getD, List.getElem?_set]
  by_cases hij : i = j
  · subst hij
    by_cases hlt : i < s.stages.length <;> simp [hlt]
  · simp [hij]

theorem setStage_getState (s : Stages) (i : Nat) (st : Stage) (hseg : st.seg = (s.stageAt i).seg) (seg stg : Nat) :
    (s.setStage i st).getState seg stg = s.getState seg stg := by
  have hst : ((s.setStage i st).stageAt stg).seg = (s.stageAt stg).seg := by
    rw [setStage_stageAt]
    split
    · rename_i hc; rw [hseg, hc.1]
    · rfl
  have hne : (s.setStage i st).stages ≠ [] ↔ s.stages ≠ [] := not_congr (List.set_eq_nil_iff i st)
  unfold getState
  rw [hst]
  simp only [hne]
  rfl

theorem setStage_nStages (s : Stages) (i : Nat) (st : Stage) : (s.setStage i st).nStages = s.nStages := by
  unfold setStage nStages; simp

theorem setStage_wf (s : Stages) (i : Nat) (st : Stage) (hw : s.WF) : (s.setStage i st).WF := by
  intro r hr
  rw [setStage_nStages]; exact hw r hr

theorem setStage_stagesOK (s : Stages) (i : Nat) (st : Stage) (hseg : st.seg = (s.stageAt i).seg)
    (hok : s.StagesOK) : (s.setStage i st).StagesOK := by
  intro x hx
  unfold setStage at hx
  simp only at hx
  by_cases hi : i < s.nStages
  · rcases List.mem_or_eq_of_mem_set hx with hx | hx
    · exact hok x hx
    · subst hx; rw [hseg]; exact hok _ (stageAt_mem s i hi)
  · -- beyond the stages `List.set` changes nothing
    rw [List.set_eq_of_length_le (by unfold Stages.nStages at hi; omega)] at hx
    exact hok x hx

theorem setStage_idxPos (s : Stages) (i : Nat) (st : Stage) (h1 : st.idx = (s.stageAt i).idx) (h2 : st.kind = (s.stageAt i).kind)
    (h : s.IdxPos) : (s.setStage i st).IdxPos := by
  intro j hj hk
  rw [setStage_nStages] at hj
  rw [setStage_stageAt] at hk ⊢
  split
  · rename_i hc
    rw [if_pos hc] at hk
    rw [h1, ← hc.1]; exact h i hc.2 (by rw [← h2]; exact hk)
  · rename_i hc
    rw [if_neg hc] at hk
    exact h j hj hk

/-! ### MoveSegmentCompletedForward -/

theorem moveForward_getState (s : Stages) (i seg stg : Nat) :
    (s.moveSegmentCompletedForward i).getState seg stg = s.getState seg stg := by
  unfold moveSegmentCompletedForward
  simp only
  apply setStage_getState
  rfl

theorem moveForward_stageAt (s : Stages) (i j : Nat) :
    ((s.moveSegmentCompletedForward i).stageAt j).idx = (s.stageAt j).idx ∧
    ((s.moveSegmentCompletedForward i).stageAt j).kind = (s.stageAt j).kind ∧
    ((s.moveSegmentCompletedForward i).stageAt j).seg = (s.stageAt j).seg ∧
    (j ≠ i → ((s.moveSegmentCompletedForward i).stageAt j).next = (s.stageAt j).next) ∧
    (s.moveSegmentCompletedForward i).nStages = s.nStages := by
  unfold moveSegmentCompletedForward
  simp only
  rw [setStage_stageAt, setStage_nStages]
  split
  · rename_i hc
    rw [← hc.1]
    exact ⟨rfl, rfl, rfl, fun hne => absurd rfl hne, rfl⟩
  · exact ⟨rfl, rfl, rfl, fun _ => rfl, rfl⟩

/-- unlike `Rest` this survives `setStage` and `setShadowableSegment` -/
structure Keep (s s' : Stages) : Prop where
  wf     : s.WF → s'.WF
  ok     : s.StagesOK → s'.StagesOK
  offset : s'.offset = s.offset
  global : s'.globalSeg = s.globalSeg
  idx    : s.IdxPos → s'.IdxPos

theorem Keep.refl (s : Stages) : Keep s s := ⟨id, id, rfl, rfl, id⟩
theorem Keep.trans {a b c : Stages} (h1 : Keep a b) (h2 : Keep b c) : Keep a c :=
  ⟨fun h => h2.wf (h1.wf h), fun h => h2.ok (h1.ok h), h2.offset.trans h1.offset, h2.global.trans h1.global,
   fun h => h2.idx (h1.idx h)⟩

theorem Keep.base {s s' : Stages} (k : Keep s s') (h : s.WF ∧ s.StagesOK ∧ s.offset ≤ s.globalSeg.firstIndex ∧ s.IdxPos) :
    s'.WF ∧ s'.StagesOK ∧ s'.offset ≤ s'.globalSeg.firstIndex ∧ s'.IdxPos :=
  ⟨k.wf h.1, k.ok h.2.1, by rw [k.offset, k.global]; exact h.2.2.1, k.idx h.2.2.2⟩

theorem Keep.of_rest {s s' : Stages} (h : Rest s s') (hw : s.WF → s'.WF) : Keep s s' :=
  ⟨hw, h.stagesOK, h.offset, h.globalSeg, h.idxPos⟩

theorem transition_keep {s s' : Stages} {u : WorkUnit} {to : UnitState} {al : List UnitState}
    (h : s.transition u to al = .ok s') : Keep s s' := Keep.of_rest (transition_rest h) (transition_wf h)

theorem allocSet_keep {s s' : Stages} {i stg : Nat} {v : UnitState} (h : (s.allocSegments i).setState i stg v = .ok s') :
    Keep s s' :=
  Keep.of_rest ((allocSegments_rest s i).trans (setState_rest h)) (fun hw => setState_wf h (allocSegments_wf s i hw))

theorem moveForward_keep (s : Stages) (i : Nat) : Keep s (s.moveSegmentCompletedForward i) := by
  unfold moveSegmentCompletedForward
  simp only
  exact ⟨setStage_wf s i _, setStage_stagesOK s i _ rfl, rfl, rfl, setStage_idxPos s i _ rfl rfl⟩

theorem moveForward_idxPos (s : Stages) (i : Nat) (h : s.IdxPos) : (s.moveSegmentCompletedForward i).IdxPos :=
  (moveForward_keep s i).idx h

/-! ### MergeCompleted -/

theorem mergeCompleted_eq {s s' : Stages} {u : WorkUnit} (h : s.mergeCompleted u = .ok s') :
    ∃ s0, s.markSegmentCompleted u = .ok s0 ∧ s' = s0.moveSegmentCompletedForward u.stage := by
  unfold mergeCompleted at h
  split at h
  · cases h
  · rename_i s1 hs1
    injection h with h
    exact ⟨s1, hs1, h.symm⟩

theorem cmdTryMerge_keep {s s' : Stages} {i : Nat} {t : TryMerge} (h : s.cmdTryMerge i = .ok (s', t)) : Keep s s' := by
  rcases cmdTryMerge_inv h with ⟨rfl, _⟩ | ⟨_, _, _, _, _, htr⟩
  · exact Keep.refl _
  · exact transition_keep htr

theorem mergeCompleted_keep {s s' : Stages} {u : WorkUnit} (h : s.mergeCompleted u = .ok s') : Keep s s' := by
  obtain ⟨s0, hs0, rfl⟩ := mergeCompleted_eq h
  exact (transition_keep hs0).trans (moveForward_keep s0 u.stage)

theorem mergeCompleted_spec {s s' : Stages} {u : WorkUnit} (h : s.mergeCompleted u = .ok s') (hw : s.WF) :
    ∃ s1, TStep (fun seg stg => seg = u.seg ∧ stg = u.stage) s s1 ∧ s1.WF ∧
      (∀ seg stg, s'.getState seg stg = s1.getState seg stg) ∧ s'.offset = s.offset ∧ s'.globalSeg = s.globalSeg ∧
      s'.nStages = s.nStages ∧ s'.WF ∧ (s.StagesOK → s'.StagesOK) ∧
      (s.getState u.seg u.stage = .merging → s'.getState u.seg u.stage = .completed) := by
  obtain ⟨s1, hs1, rfl⟩ := mergeCompleted_eq h
  have st1 := transition_tstep hs1
  have k := (transition_keep hs1).trans (moveForward_keep s1 u.stage)
  refine ⟨s1, st1, st1.wf hw, moveForward_getState s1 _, k.offset, k.global,
    (moveForward_stageAt s1 u.stage 0).2.2.2.2.trans st1.rest.nStages, k.wf hw, k.ok, fun hm => ?_⟩
  rw [moveForward_getState]
  -- a cell that reads Merging does not read NoOp after the allocation of its row
  refine (transition_target hs1 hw).resolve_right fun hc => ?_
  have := getState_allocSegments_of_ne_pending s u.seg u.seg u.stage (by rw [hm]; simp)
  rw [hc.2, hm] at this
  cases this

theorem mergeCompleted_ok (s : Stages) (u : WorkUnit) (hw : s.WF) (hm : s.getState u.seg u.stage = .merging) :
    ∃ s', s.mergeCompleted u = .ok s' := by
  obtain ⟨s1, hs1⟩ := transition_succeeds_of_state s hw u .completed [.pending, .merging, .scheduled, .shadowed, .noOp, .completed] hm (by decide)
  unfold mergeCompleted markSegmentCompleted
  rw [hs1]; exact ⟨_, rfl⟩

/-! ### the initial state (`NewStages`, `FetchStoresState`) -/

theorem setShadowable_keep (s : Stages) (x : Nat) : Keep s (s.setShadowableSegment x) := by
  unfold setShadowableSegment
  split <;> exact ⟨id, id, rfl, rfl, id⟩

theorem noOpLoop_keep {stage fuel i : Nat} {s s' : Stages} (h : noOpLoop stage fuel i s = .ok s') : Keep s s' := by
  fun_induction noOpLoop stage fuel i s
  case case1 => cases h; exact Keep.refl _
  case case2 => cases h
  case case3 hs1 ih => exact (allocSet_keep hs1).trans (ih h)

theorem noOpStoresRow_keep {ls i k : Nat} {s s' : Stages} (h : noOpStoresRow ls i k s = .ok s') : Keep s s' := by
  fun_induction noOpStoresRow ls i k s
  case case1 => cases h; exact Keep.refl _
  case case2 ih => exact ih h
  case case3 => cases h
  case case4 hs1 ih => exact (allocSet_keep hs1).trans (ih h)

theorem noOpStoresLoop_keep {ls fuel i : Nat} {s s' : Stages} (h : noOpStoresLoop ls fuel i s = .ok s') : Keep s s' := by
  fun_induction noOpStoresLoop ls fuel i s
  case case1 => cases h; exact Keep.refl _
  case case2 => cases h
  case case3 hs1 ih => exact (noOpStoresRow_keep hs1).trans (ih h)

theorem fullsLoop_keep {segm : Segmenter} {st : Stage} {a b : Nat} {ms : Segmenter} {l : List StoreFile} {s s' : Stages}
    {cm cm' : List (WorkUnit × List Nat)} (h : fullsLoop segm st a b ms l s cm = .ok (s', cm')) : Keep s s' := by
  fun_induction fullsLoop segm st a b ms l s cm
  case case1 => cases h; exact Keep.refl _
  case case2 ih => exact ih h
  case case3 ih => exact ih h
  case case4 => cases h
  case case5 hs1 _ ih => exact (transition_keep hs1).trans (ih h)
  case case6 ih => exact ih h

theorem partialsLoop_keep {segm : Segmenter} {st : Stage} {a b : Nat} {ms : Segmenter} {l : List StoreFile} {s s' : Stages}
    {pm pm' : List (WorkUnit × List Nat)} (h : partialsLoop segm st a b ms l s pm = .ok (s', pm')) : Keep s s' := by
  fun_induction partialsLoop segm st a b ms l s pm
  case case1 => cases h; exact Keep.refl _
  case case2 ih => exact ih h
  case case3 ih => exact ih h
  case case4 ih => exact ih h
  case case5 => cases h
  case case6 hs1 _ ih => exact (transition_keep hs1).trans (ih h)
  case case7 ih => exact ih h

theorem mapperLoop_keep {ms : Segmenter} {st : Stage} {si : Nat} {l : List OutFile} {s s' : Stages}
    {cm cm' : List (WorkUnit × List Nat)} (h : mapperLoop ms st si l s cm = .ok (s', cm')) : Keep s s' := by
  fun_induction mapperLoop ms st si l s cm
  case case1 => cases h; exact Keep.refl _
  case case2 ih => exact ih h
  case case3 ih => exact ih h
  case case4 => cases h
  case case5 hs1 _ ih => exact (transition_keep hs1).trans (ih h)
  case case6 ih => exact ih h

theorem fetchMods_keep {segm : Segmenter} {files : List StoreFile} {st : Stage} {si : Nat} {l : List ModState} {mp : Nat}
    {s : Stages} {cm pm : List (WorkUnit × List Nat)} {r : Stages × List (WorkUnit × List Nat) × List (WorkUnit × List Nat)}
    (h : fetchMods segm files st si l mp s cm pm = .ok r) : Keep s r.1 := by
  fun_induction fetchMods segm files st si l mp s cm pm
  case case1 => cases h; exact Keep.refl _
  case case2 => cases h
  case case3 => cases h
  case case4 h1 _ _ h2 ih => exact ((fullsLoop_keep h1).trans (partialsLoop_keep h2)).trans (ih h)

theorem fetchStages_keep {segm : Segmenter} {files : Files} {mf : Option (List OutFile)} {fuel si : Nat} {s s' : Stages}
    {cm pm : List (WorkUnit × List Nat)} (h : fetchStages segm files mf fuel si s cm pm = .ok s') : Keep s s' := by
  fun_induction fetchStages segm files mf fuel si s cm pm
  case case1 => cases h; exact Keep.refl _
  case case2 hmf ih => subst hmf; exact ih h
  case case3 => cases h
  case case4 => cases h
  case case5 => cases h
  case case6 hmf _ _ _ _ _ h1 ih => subst hmf; exact (mapperLoop_keep h1).trans (ih h)
  case case7 => cases h
  case case8 h1 ih => exact ((fetchMods_keep h1).trans (moveForward_keep _ _)).trans (ih h)

theorem fetchStoresState_keep {c : Cfg} {files : Files} {s s' : Stages} (h : fetchStoresState c files s = .ok s') : Keep s s' := by
  revert h
  fun_cases fetchStoresState c files s
  case case5 h1 => intro h; cases h; exact (fetchStages_keep h1).trans (setShadowable_keep _ _)
  all_goals intro h; cases h

theorem newStagesList_stagesOK (c : Cfg) (hc : c.OK) (l : List StageCfg) (idx : Nat) : ∀ st ∈ newStagesList c l idx,
    0 < st.seg.interval ∧ (st.seg.init < st.seg.end_ ∨ st.seg.lastIndex < st.seg.firstIndex) := by
  -- the segmenter comes from one of the two ranges of the plan
  have plan : ∀ (r : Option Range) (sg : Segmenter), (∀ x, r = some x → 0 < x.stop ∧ x.stop % c.interval = 0) →
      r.map (fun x => (⟨c.interval, x.start, x.stop⟩ : Segmenter)) = some sg →
      sg.interval = c.interval ∧ 0 < sg.end_ ∧ sg.end_ % c.interval = 0 := by
    intro r sg hr h
    cases r with
    | none => cases h
    | some x => cases h; exact ⟨rfl, hr x rfl⟩
  fun_induction newStagesList c l idx
  case case1 => intro st h; cases h
  case case2 ih => exact ih
  case case3 sc _ _ _ sg hsg _ _ ih =>
    intro st h
    rcases List.mem_cons.1 h with rfl | h
    · have hsg : (if sc.kind = .map then c.writeOutSegmenter else c.storesSegmenter) = some sg := hsg
      obtain ⟨hi, hpos, hmod⟩ : sg.interval = c.interval ∧ 0 < sg.end_ ∧ sg.end_ % c.interval = 0 := by
        split at hsg
        · exact plan _ sg hc.2.2.1 hsg
        · exact plan _ sg hc.2.1 hsg
      have hk : 0 < sg.interval := by rw [hi]; exact hc.1
      exact ⟨hk, init_lt_or_empty _ hk hpos (by rw [hi]; exact hmod)⟩
    · exact ih st h

theorem initSegmentsOffset_base {c : Cfg} {s s' : Stages} (h : initSegmentsOffset c s = .ok s')
    (hw : s.WF) (hok : s.StagesOK) (hidx : s.IdxPos) :
    s'.WF ∧ s'.StagesOK ∧ s'.offset ≤ s'.globalSeg.firstIndex ∧ s'.IdxPos := by
  unfold initSegmentsOffset at h
  simp only at h
  generalize hs0 : ({ s with offset := s.globalSeg.firstIndex } : Stages) = s0 at h
  have b0 : s0.WF ∧ s0.StagesOK ∧ s0.offset ≤ s0.globalSeg.firstIndex ∧ s0.IdxPos := by
    subst hs0; exact ⟨hw, hok, Nat.le_refl _, hidx⟩
  split at h
  · cases h
  · rename_i s1 hr1
    have k1 : Keep s0 s1 := by
      split at hr1
      · injection hr1 with hr1; subst hr1; exact Keep.refl _
      · split at hr1
        · cases hr1
        · exact noOpLoop_keep hr1
    split at h
    · injection h with h; subst h; exact k1.base b0
    · exact (k1.trans (noOpStoresLoop_keep h)).base b0

theorem newStagesList_no_store (c : Cfg) (hs : c.storesSegmenter = none) (l : List StageCfg) (idx : Nat) :
    ∀ x ∈ newStagesList c l idx, x.kind ≠ .store := by
  fun_induction newStagesList c l idx
  case case1 => intro x h; cases h
  case case2 ih => exact ih
  case case3 sc _ _ _ sg hsg _ _ ih =>
    intro x h hk
    rcases List.mem_cons.1 h with rfl | h
    · have hk : sc.kind = .store := hk
      have hsg : (if sc.kind = .map then c.writeOutSegmenter else c.storesSegmenter) = some sg := hsg
      rw [hk, if_neg (by simp), hs] at hsg
      cases hsg
    · exact ih x h hk

theorem newStagesList_idx (c : Cfg) (l : List StageCfg) (idx : Nat)
    (hl : ∀ i, i + 1 < l.length → (l.getD i ⟨.map, []⟩).kind = .store) :
    ∀ j, j < (newStagesList c l idx).length → ((newStagesList c l idx).getD j default).kind = .store →
      ((newStagesList c l idx).getD j default).idx = idx + j := by
  fun_induction newStagesList c l idx
  case case1 => intro j hj; cases hj
  case case2 sc rest idx _ hnone ih =>
    -- the stage is skipped: nothing with kind `store` follows
    intro j hj hk
    have hnone : (if sc.kind = .map then c.writeOutSegmenter else c.storesSegmenter) = none := hnone
    exfalso
    by_cases hsk : sc.kind = .store
    · -- a store stage is skipped: no store is kept at all
      exact newStagesList_no_store c (by simpa [hsk] using hnone) _ _ _ (getD_mem default hj) hk
    · -- a mapper stage is skipped: it is the last one
      cases rest with
      | nil => cases hj
      | cons r rs => exact hsk (by simpa using hl 0 (by simp))
  case case3 sc rest idx _ sg _ _ _ ih =>
    intro j hj hk
    cases j with
    | zero => rfl
    | succ j' =>
      have := ih (fun i hi => by simpa using hl (i + 1) (by simp; omega)) j' (by simpa using hj) hk
      simp only [List.getD_cons_succ]
      omega

theorem initStages_base {c : Cfg} {files : Files} {s : Stages} (hc : c.OK) (h : initStages c files = .ok s) :
    s.WF ∧ s.StagesOK ∧ s.offset ≤ s.globalSeg.firstIndex ∧ s.IdxPos := by
  unfold initStages at h
  split at h
  · cases h
  · rename_i s0 h0
    unfold newStages at h0
    split at h0
    · cases h0
    · rename_i g hg
      refine (fetchStoresState_keep h).base (initSegmentsOffset_base h0 (by intro r hr; simp at hr)
        (by intro st hst; exact newStagesList_stagesOK c hc _ _ st hst)
        (by
          intro j hj hk
          have := newStagesList_idx c c.graph 0 hc.2.2.2 j hj hk
          rw [Nat.zero_add] at this
          exact this))

/-! ### Mono: units only move forward -/

def Mono (s s' : Stages) : Prop := ∀ seg stg, rank (s.getState seg stg) ≤ rank (s'.getState seg stg)

theorem Mono.refl (s : Stages) : Mono s s := fun _ _ => Nat.le_refl _
theorem Mono.trans {a b c : Stages} (h1 : Mono a b) (h2 : Mono b c) : Mono a c :=
  fun seg stg => Nat.le_trans (h1 seg stg) (h2 seg stg)

theorem Mono.of_eq {s s' : Stages} (h : ∀ seg stg, s'.getState seg stg = s.getState seg stg) : Mono s s' :=
  fun seg stg => by rw [h]; exact Nat.le_refl _

/-- Pending has rank 0 -/
theorem Mono.of_pstep {s s' : Stages} (h : PStep s s') : Mono s s' := by
  intro seg stg
  by_cases hp : s.getState seg stg = .pending
  · rw [hp]; exact Nat.zero_le _
  · rw [h.frame seg stg (fun x => x) hp]; exact Nat.le_refl _

theorem Mono.of_tstep {T : Nat → Nat → Prop} {s s' : Stages} (h : TStep T s s')
    (hT : ∀ seg stg, T seg stg → rank (s.getState seg stg) ≤ rank (s'.getState seg stg)) : Mono s s' := by
  intro seg stg
  by_cases hc : T seg stg
  · exact hT seg stg hc
  · rcases h.frame seg stg hc with e | ⟨e1, e2⟩
    · rw [e]; exact Nat.le_refl _
    · rw [e1, e2]; exact Nat.le_refl _

theorem transition_mono {s s' : Stages} {u : WorkUnit} {to : UnitState} {al : List UnitState}
    (h : s.transition u to al = .ok s') (hw : s.WF) (hal : ∀ x ∈ al, rank x ≤ rank to) : Mono s s' := by
  refine Mono.of_tstep (transition_tstep h) fun seg stg hc => ?_
  rw [hc.1, hc.2]
  apply Nat.le_trans (Mono.of_pstep (allocSegments_pstep s u.seg) u.seg u.stage)
  rcases transition_target h hw with e | ⟨e, ea⟩
  · rw [e]; exact hal _ (transition_ok h).1
  · rw [e, ea]; exact Nat.le_refl _

theorem nextJob_mono (fix : Patch) (hf : fix.shadow = true) (s s' : Stages) (res : Option (WorkUnit × Range)) (hw : s.WF)
    (h : s.nextJob fix = .ok (s', res)) : Mono s s' :=
  Mono.of_pstep (nextJobSegs_spec hf hw h).pstep

theorem jobSuccessLoop_mono {seg k : Nat} {s s' : Stages} {acc acc' : List WorkUnit} (hw : s.WF)
    (h : jobSuccessLoop seg k s acc = .ok (s', acc')) : Mono s s' := by
  fun_induction jobSuccessLoop seg k s acc
  case case1 => cases h; exact Mono.refl _
  case case2 => cases h
  case case3 hs1 ih =>
    exact (transition_mono hs1 hw (by decide)).trans (ih (transition_wf hs1 hw) h)
  case case4 ih => exact ih hw h

theorem markJobSuccess_mono {s s' : Stages} {u : WorkUnit} {l : List WorkUnit} (h : s.markJobSuccess u = .ok (s', l)) (hw : s.WF) :
    Mono s s' := by
  obtain ⟨s1, k, _, hs1, h2⟩ := markJobSuccess_inv h
  exact (transition_mono hs1 hw (by decide)).trans (jobSuccessLoop_mono (transition_wf hs1 hw) h2)

theorem cmdTryMerge_mono {s s' : Stages} {i : Nat} {t : TryMerge} (h : s.cmdTryMerge i = .ok (s', t)) (hw : s.WF) : Mono s s' := by
  by_cases ht : ∃ u, t = .merge u
  · obtain ⟨u, rfl⟩ := ht
    have sp := cmdTryMerge_merge h hw
    refine Mono.of_tstep sp.2.2.2.2.2.2 fun seg stg hc => ?_
    rw [hc.1, hc.2, sp.2.2.2.1, sp.2.2.2.2.2.1]; simp [rank]
  · rw [cmdTryMerge_other h fun u e => ht ⟨u, e⟩]; exact Mono.refl _

theorem mergeCompleted_mono {s s' : Stages} {u : WorkUnit} (h : s.mergeCompleted u = .ok s') (hw : s.WF) : Mono s s' := by
  obtain ⟨s1, hs1, rfl⟩ := mergeCompleted_eq h
  exact (transition_mono hs1 hw (by decide)).trans (Mono.of_eq (moveForward_getState s1 _))

end Stages
end SV.Stg
