import Model.Store
/-! The store model against its delta semantics.  The deltas of a block act on contents (`stepF`, `postF`); `Chain` says
that each delta names the value it replaces.  `FInv f s b` holds of a store inside a block that started from content `f`:
every writer keeps it (`pushDelta_inv` … `execBlock_inv`), and the readers' specifications (`FInv.getFirst/getLast/getAt`)
and the exact size (`applyDeltaSize_eq`) are read off it.  Core Lean only. -/
namespace SV

theorem snoc_induction {α : Type} {P : List α → Prop} (hnil : P [])
    (hsnoc : ∀ l a, P l → P (l ++ [a])) : ∀ l, P l := by
  intro l
  have h : ∀ r : List α, P r.reverse := by
    intro r
    induction r with
    | nil => exact hnil
    | cons a r ih => rw [List.reverse_cons]; exact hsnoc _ _ ih
  simpa using h l.reverse

/-! ### association lists -/

def NodupKeys (kv : KV) : Prop := (kv.map (·.1)).Nodup

theorem look_hit (k v : Bytes) (rest : KV) : look ((k, v) :: rest) k = some v := if_pos rfl

theorem look_miss {k' k : Bytes} (h : ¬k' = k) (v : Bytes) (rest : KV) : look ((k', v) :: rest) k = look rest k :=
  if_neg h

theorem del_hit (k v : Bytes) (rest : KV) : del ((k, v) :: rest) k = del rest k := by
  simp [del]

theorem del_miss {k' k : Bytes} (h : ¬k' = k) (v : Bytes) (rest : KV) :
    del ((k', v) :: rest) k = (k', v) :: del rest k := by
  simp [del, h]

theorem kvSize_cons (p : Bytes × Bytes) (kv : KV) : kvSize (p :: kv) = p.1.length + p.2.length + kvSize kv := by
  simp [kvSize]

theorem look_ins (kv : KV) (k v k' : Bytes) :
    look (ins kv k v) k' = if k = k' then some v else look kv k' := by
  fun_induction ins kv k v with
  | case1 => rfl
  | case2 v' rest =>
    by_cases h2 : k = k'
    · subst h2; rw [look_hit, if_pos rfl]
    · rw [look_miss h2, look_miss h2, if_neg h2]
  | case3 pk pv rest h ih =>
    by_cases h2 : pk = k'
    · subst h2; rw [look_hit, look_hit, if_neg (Ne.symm h)]
    · rw [look_miss h2, look_miss h2, ih]

theorem look_del (kv : KV) (k k' : Bytes) :
    look (del kv k) k' = if k = k' then none else look kv k' := by
  induction kv with
  | nil => simp [del, look]
  | cons p rest ih =>
    obtain ⟨pk, pv⟩ := p
    by_cases h : pk = k
    · subst h
      rw [del_hit, ih]
      by_cases h2 : pk = k'
      · rw [if_pos h2, if_pos h2]
      · rw [if_neg h2, if_neg h2, look_miss h2]
    · rw [del_miss h]
      by_cases h2 : pk = k'
      · subst h2; rw [look_hit, look_hit, if_neg (Ne.symm h)]
      · rw [look_miss h2, look_miss h2, ih]

theorem mem_keys_of_look {kv : KV} {k v : Bytes} (h : look kv k = some v) : (k, v) ∈ kv := by
  fun_induction look kv k with
  | case1 => cases h
  | case2 => cases h; exact List.mem_cons_self
  | case3 _ _ _ _ ih => exact List.mem_cons_of_mem _ (ih h)

theorem look_eq_none_iff {kv : KV} {k : Bytes} : look kv k = none ↔ k ∉ kv.map (·.1) := by
  fun_induction look kv k with
  | case1 => simp
  | case2 => exact ⟨nofun, fun h => absurd List.mem_cons_self h⟩
  | case3 _ _ _ h ih =>
    rw [ih, List.map_cons, List.mem_cons, not_or]
    exact ⟨fun h' => ⟨Ne.symm h, h'⟩, And.right⟩

theorem look_none_of_not_mem {kv : KV} {k : Bytes} (h : k ∉ kv.map (·.1)) : look kv k = none :=
  look_eq_none_iff.2 h

theorem look_of_mem {kv : KV} (hn : NodupKeys kv) {k v : Bytes} (h : (k, v) ∈ kv) : look kv k = some v := by
  induction kv with
  | nil => cases h
  | cons p rest ih =>
    obtain ⟨pk, pv⟩ := p
    obtain ⟨hp, hr⟩ := List.nodup_cons.1 hn
    rcases List.mem_cons.1 h with heq | hmem
    · cases heq; exact look_hit _ _ _
    · have hne : ¬pk = k := fun hc => hp (hc ▸ List.mem_map.2 ⟨(k, v), hmem, rfl⟩)
      rw [look_miss hne]; exact ih hr hmem

theorem nodup_ins {kv : KV} (hn : NodupKeys kv) (k v : Bytes) : NodupKeys (ins kv k v) := by
  fun_induction ins kv k v with
  | case1 => simp [NodupKeys]
  | case2 => exact hn
  | case3 pk pv rest h ih =>
    obtain ⟨hp, hr⟩ := List.nodup_cons.1 hn
    refine List.nodup_cons.2 ⟨?_, ih hr⟩
    rw [← look_eq_none_iff, look_ins, if_neg (Ne.symm h), look_eq_none_iff]
    exact hp

theorem nodup_filter {kv : KV} (hn : NodupKeys kv) (q : Bytes × Bytes → Bool) : NodupKeys (kv.filter q) :=
  List.Nodup.sublist (List.Sublist.map _ List.filter_sublist) hn

theorem nodup_del {kv : KV} (hn : NodupKeys kv) (k : Bytes) : NodupKeys (del kv k) := nodup_filter hn _

theorem del_of_not_mem {kv : KV} {k : Bytes} (h : k ∉ kv.map (·.1)) : del kv k = kv :=
  List.filter_eq_self.2 fun p hp => decide_eq_true fun hc => h (List.mem_map.2 ⟨p, hp, hc⟩)

/-- what the entry of `k`, if there is one, contributes to `kvSize` -/
def entrySize (k : Bytes) : Option Bytes → Nat
  | none => 0
  | some v => k.length + v.length

theorem kvSize_ge (kv : KV) (k : Bytes) : entrySize k (look kv k) ≤ kvSize kv := by
  fun_induction look kv k with
  | case1 => exact Nat.le_refl 0
  | case2 v rest => rw [kvSize_cons]; exact Nat.le_add_right (_ + v.length) _
  | case3 _ _ _ _ ih => rw [kvSize_cons]; exact Nat.le_trans ih (Nat.le_add_left _ _)

theorem kvSize_ins (kv : KV) (k v : Bytes) :
    kvSize (ins kv k v) + entrySize k (look kv k) = kvSize kv + (k.length + v.length) := by
  fun_induction ins kv k v with
  | case1 => simp [look, kvSize, entrySize]
  | case2 => simp only [look_hit, kvSize_cons, entrySize]; omega
  | case3 _ _ _ h ih => simp only [look_miss h, kvSize_cons, Nat.add_assoc, ih]

theorem kvSize_del {kv : KV} (hn : NodupKeys kv) (k : Bytes) :
    kvSize (del kv k) + entrySize k (look kv k) = kvSize kv := by
  fun_induction look kv k with
  | case1 => rfl
  | case2 v rest =>
    rw [del_hit, del_of_not_mem (List.nodup_cons.1 hn).1, kvSize_cons]; exact Nat.add_comm _ _
  | case3 _ _ _ h ih =>
    rw [del_miss h, kvSize_cons, kvSize_cons, Nat.add_assoc, ih (List.nodup_cons.1 hn).2]

/-! ### deltas as functions on contents -/

abbrev Content := Bytes → Option Bytes

def stepF (f : Content) (d : Delta) : Content := fun k =>
  if d.key = k then (match d.op with | .delete => none | _ => some d.new) else f k

def postF (f : Content) (ds : List Delta) : Content := ds.foldl stepF f

/-- CREATE finds the key absent, UPDATE and DELETE carry the current value as `old` -/
def WFd (f : Content) (d : Delta) : Prop :=
  match d.op with
  | .create => f d.key = none
  | .update | .delete => f d.key = some d.old

def Chain (f : Content) : List Delta → Prop
  | [] => True
  | d :: rest => WFd f d ∧ Chain (stepF f d) rest

theorem stepF_ne (f : Content) (d : Delta) (k : Bytes) (h : d.key ≠ k) : stepF f d k = f k := by
  simp [stepF, h]

theorem postF_snoc (f : Content) (l : List Delta) (d : Delta) : postF f (l ++ [d]) = stepF (postF f l) d := by
  simp [postF, List.foldl_append]

theorem chain_append (l1 l2 : List Delta) : ∀ f : Content,
    Chain f (l1 ++ l2) ↔ (Chain f l1 ∧ Chain (postF f l1) l2) := by
  induction l1 with
  | nil => intro f; simp [Chain, postF]
  | cons x xs ih => intro f; simp only [List.cons_append, Chain, ih, postF, List.foldl_cons, and_assoc]

theorem chain_snoc (l : List Delta) (d : Delta) (f : Content) :
    Chain f (l ++ [d]) ↔ (Chain f l ∧ WFd (postF f l) d) := by
  simp [chain_append, Chain]

theorem look_applyDeltaKV (kv : KV) (d : Delta) : look (applyDeltaKV kv d) = stepF (look kv) d := by
  funext k
  unfold applyDeltaKV stepF
  cases h : d.op <;> simp [look_ins, look_del]

theorem nodup_applyDeltaKV {kv : KV} (hn : NodupKeys kv) (d : Delta) : NodupKeys (applyDeltaKV kv d) := by
  unfold applyDeltaKV
  cases d.op <;> simp [nodup_ins hn, nodup_del hn]

/-- the size update of an UPDATE delta: value length `a` to `b`, key length `c` -/
theorem resize_eq {n m a b c : Nat} (h : m + (c + a) = n + (c + b)) :
    (if b > a then n + (b - a) else if b < a then n - (a - b) else n) = m := by
  have h : m + a = n + b := Nat.add_left_cancel (n := c) (by rw [Nat.add_left_comm, h, Nat.add_left_comm])
  rcases Nat.lt_trichotomy a b with hlt | rfl | hgt
  · rw [if_pos hlt]
    apply Nat.add_right_cancel (m := a)
    rw [Nat.add_assoc, Nat.sub_add_cancel (Nat.le_of_lt hlt), h]
  · rw [if_neg (Nat.lt_irrefl a), if_neg (Nat.lt_irrefl a)]
    exact (Nat.add_right_cancel h).symm
  · rw [if_neg (Nat.lt_asymm hgt), if_pos hgt]
    apply Nat.sub_eq_of_eq_add
    apply Nat.add_right_cancel (m := b)
    rw [Nat.add_assoc, Nat.sub_add_cancel (Nat.le_of_lt hgt), h]

theorem applyDeltaSize_eq {kv : KV} (hn : NodupKeys kv) {d : Delta} (hw : WFd (look kv) d) :
    applyDeltaSize (kvSize kv) d = kvSize (applyDeltaKV kv d) := by
  unfold WFd at hw
  unfold applyDeltaSize applyDeltaKV
  cases hop : d.op <;> simp only [hop] at hw ⊢
  · have : kvSize (ins kv d.key d.new) = _ := hw ▸ kvSize_ins kv d.key d.new
    rw [this, Nat.add_assoc, Nat.add_comm d.new.length]
  · exact resize_eq (hw ▸ kvSize_ins kv d.key d.new)
  · have : kvSize (del kv d.key) + (d.key.length + d.old.length) = _ := hw ▸ kvSize_del hn d.key
    rw [← this, Nat.sub_sub, Nat.add_comm d.old.length, Nat.add_sub_cancel]

def applyDeltas (kv : KV) (ds : List Delta) : KV := ds.foldl applyDeltaKV kv

theorem look_applyDeltas (ds : List Delta) : ∀ kv : KV,
    look (applyDeltas kv ds) = postF (look kv) ds := by
  unfold applyDeltas postF
  induction ds with
  | nil => intro kv; rfl
  | cons d rest ih => intro kv; simp only [List.foldl_cons, ih, look_applyDeltaKV]

/-! ### the readers (value_get.go) -/

theorem getFirstIn_spec (ds : List Delta) : ∀ (f : Content) (kv : KV) (k : Bytes),
    Chain f ds → look kv k = postF f ds k → getFirstIn ds kv k = f k := by
  induction ds with
  | nil => intro f kv k _ hkv; exact hkv
  | cons d rest ih =>
    intro f kv k ⟨hw, hc⟩ hkv
    unfold getFirstIn
    by_cases h : d.key = k
    · subst h
      rw [if_pos rfl]
      unfold WFd at hw
      cases hop : d.op <;> simp only [hop] at hw ⊢ <;> exact hw.symm
    · rw [if_neg h, ih (stepF f d) kv k hc hkv]
      exact stepF_ne _ _ _ h

theorem getLastIn_spec (f : Content) (kv : KV) (k : Bytes) : ∀ ds : List Delta,
    look kv k = postF f ds k → getLastIn ds.reverse kv k = postF f ds k := by
  intro ds
  induction ds using snoc_induction with
  | hnil => exact id
  | hsnoc l d ih =>
    intro hkv
    rw [List.reverse_append, List.reverse_singleton, List.singleton_append, getLastIn]
    rw [postF_snoc] at hkv ⊢
    by_cases h : d.key = k
    · simp only [stepF, h, ↓reduceIte]
      cases d.op <;> rfl
    · rw [if_neg h]
      rw [stepF_ne _ _ _ h] at hkv ⊢
      exact ih hkv

theorem walkBack_spec (f : Content) (ord : Nat) (k : Bytes) : ∀ ds : List Delta,
    Chain f ds → ds.Pairwise (fun a b => a.ord ≤ b.ord) →
    walkBack ds.reverse ord k (postF f ds k) = postF f (ds.filter (fun d => decide (d.ord ≤ ord))) k := by
  intro ds
  induction ds using snoc_induction with
  | hnil => intro _ _; rfl
  | hsnoc l d ih =>
    intro hch hs
    obtain ⟨hcl, hw⟩ := (chain_snoc l d f).1 hch
    obtain ⟨hl, _, hld⟩ := List.pairwise_append.1 hs
    rw [List.reverse_append, List.reverse_singleton, List.singleton_append, walkBack, List.filter_append]
    by_cases hle : d.ord ≤ ord
    · -- nothing to undo: the deltas before `d` have ordinals at most `d.ord`
      have : l.filter (fun d => decide (d.ord ≤ ord)) = l :=
        List.filter_eq_self.2 fun a ha => decide_eq_true (Nat.le_trans (hld a ha d (List.mem_singleton_self d)) hle)
      simp only [hle, this, ↓reduceIte, List.filter_cons, decide_true, List.filter_nil]
    · -- `d` is undone: the walk goes on from the value before `d`
      simp only [hle, ↓reduceIte, List.filter_cons, decide_false, Bool.false_eq_true, List.filter_nil, List.append_nil]
      rw [← ih hcl hl]
      by_cases h : d.key = k
      · rw [if_pos h]
        subst h
        unfold WFd at hw
        cases hop : d.op <;> simp only [hop] at hw ⊢ <;> rw [hw]
      · rw [if_neg h, postF_snoc, stepF_ne _ _ _ h]

/-! ### has_*: the same walks, coded a second time with booleans -/

theorem hasFirstIn_eq (ds : List Delta) (kv : KV) (k : Bytes) :
    Store.hasFirstIn ds kv k = (getFirstIn ds kv k).isSome := by
  fun_induction getFirstIn ds kv k <;> simp_all [Store.hasFirstIn]

theorem hasLastIn_eq (rds : List Delta) (kv : KV) (k : Bytes) :
    Store.hasLastIn rds kv k = (getLastIn rds kv k).isSome := by
  fun_induction getLastIn rds kv k <;> simp_all [Store.hasLastIn]

theorem walkBackHas_eq (rds : List Delta) (ord : Nat) (k : Bytes) (cur : Option Bytes) :
    Store.walkBackHas rds ord k cur.isSome = (walkBack rds ord k cur).isSome := by
  fun_induction walkBack rds ord k cur with
  | case1 => rfl
  | case2 cur d rest h => simp [Store.walkBackHas, h]
  | case3 cur d rest h hk hop ih | case4 cur d rest h hk hop ih | case5 cur d rest h hk hop ih =>
    simpa [Store.walkBackHas, h, hk, hop] using ih
  | case6 cur d rest h hk ih => simpa [Store.walkBackHas, h, hk] using ih

/-- a store inside a block that started from content `f`; `bound` is the ordinal of the last operation applied, so that
a further delta of ordinal `≥ bound` keeps `sorted` -/
structure FInv (f : Content) (s : Store) (bound : Nat) : Prop where
  nodup   : NodupKeys s.kv
  chain   : Chain f s.deltas
  kvpost  : look s.kv = postF f s.deltas
  sorted  : s.deltas.Pairwise (fun a b => a.ord ≤ b.ord)
  bounded : ∀ d ∈ s.deltas, d.ord ≤ bound
  size    : s.size = kvSize s.kv

theorem FInv.getLast {f : Content} {s : Store} {b : Nat} (h : FInv f s b) (k : Bytes) :
    s.getLast k = look s.kv k := by
  unfold Store.getLast
  rw [getLastIn_spec f s.kv k s.deltas (by rw [h.kvpost]), h.kvpost]

theorem FInv.getFirst {f : Content} {s : Store} {b : Nat} (h : FInv f s b) (k : Bytes) : s.getFirst k = f k :=
  getFirstIn_spec s.deltas f s.kv k h.chain (by rw [h.kvpost])

theorem FInv.getAt {f : Content} {s : Store} {b : Nat} (h : FInv f s b) (ord : Nat) (k : Bytes) :
    s.getAt ord k = postF f (s.deltas.filter (fun d => decide (d.ord ≤ ord))) k := by
  unfold Store.getAt
  rw [h.getLast k, h.kvpost, walkBack_spec f ord k s.deltas h.chain h.sorted]

theorem FInv.mono {f : Content} {s : Store} {b b' : Nat} (h : FInv f s b) (hb : b ≤ b') : FInv f s b' :=
  { h with bounded := fun d hd => Nat.le_trans (h.bounded d hd) hb }

theorem pushDelta_ok {cfg : Cfg} {s s' : Store} {d : Delta} (hp : pushDelta cfg s d = .ok s') :
    s' = { s with kv := applyDeltaKV s.kv d, size := applyDeltaSize s.size d, deltas := s.deltas ++ [d] } := by
  revert hp
  fun_cases pushDelta cfg s d with
  | case1 => exact nofun
  | case2 s1 h1 =>
    rintro ⟨⟩
    revert h1
    fun_cases applyDelta cfg s d with
    | case1 => exact nofun
    | case2 => exact nofun
    | case3 => exact nofun
    | case4 => intro h1; injection h1 with h1; subst h1; rfl

theorem pushDelta_inv {cfg : Cfg} {f : Content} {s s' : Store} {b : Nat} {d : Delta}
    (h : FInv f s b) (hw : WFd (look s.kv) d) (hb : b ≤ d.ord)
    (hp : pushDelta cfg s d = .ok s') :
    FInv f s' d.ord ∧ s'.ops = s.ops ∧ s'.deltas = s.deltas ++ [d] ∧ look s'.kv = stepF (look s.kv) d := by
  cases pushDelta_ok hp
  refine ⟨⟨nodup_applyDeltaKV h.nodup d, (chain_snoc _ _ _).2 ⟨h.chain, h.kvpost ▸ hw⟩, ?_, ?_, ?_, ?_⟩,
    rfl, rfl, look_applyDeltaKV _ _⟩
  · show look (applyDeltaKV s.kv d) = postF f (s.deltas ++ [d])
    rw [look_applyDeltaKV, postF_snoc, h.kvpost]
  · refine List.pairwise_append.2 ⟨h.sorted, List.pairwise_singleton _ _, fun a ha c hc => ?_⟩
    cases List.mem_singleton.1 hc
    exact Nat.le_trans (h.bounded a ha) hb
  · intro a ha
    rcases List.mem_append.1 ha with ha | ha
    · exact Nat.le_trans (h.bounded a ha) hb
    · cases List.mem_singleton.1 ha; exact Nat.le_refl _
  · show applyDeltaSize s.size d = kvSize (applyDeltaKV s.kv d)
    rw [h.size]
    exact applyDeltaSize_eq h.nodup hw

theorem pushDelta_finv {cfg : Cfg} {f : Content} {s s' : Store} {b : Nat} {d : Delta}
    (h : FInv f s b) (hw : WFd (look s.kv) d) (hb : b ≤ d.ord) (hp : pushDelta cfg s d = .ok s') :
    FInv f s' d.ord ∧ s'.ops = s.ops :=
  have := pushDelta_inv h hw hb hp
  ⟨this.1, this.2.1⟩

theorem setRaw_inv {cfg : Cfg} {f : Content} {s s' : Store} {b ord : Nat} {k v : Bytes}
    (h : FInv f s b) (hb : b ≤ ord) (hp : setRaw cfg s ord k v = .ok s') :
    FInv f s' ord ∧ s'.ops = s.ops := by
  revert hp
  fun_cases setRaw cfg s ord k v with
  | case1 => exact nofun
  | case2 => exact nofun
  | case3 => exact nofun
  | case4 _ _ _ old hl => exact pushDelta_finv (d := ⟨.update, ord, k, old, v⟩) h ((h.getLast k).symm.trans hl) hb
  | case5 _ _ _ hl => exact pushDelta_finv (d := ⟨.create, ord, k, [], v⟩) h ((h.getLast k).symm.trans hl) hb

theorem setIfNotExistsRaw_inv {cfg : Cfg} {f : Content} {s s' : Store} {b ord : Nat} {k v : Bytes}
    (h : FInv f s b) (hb : b ≤ ord) (hp : setIfNotExistsRaw cfg s ord k v = .ok s') :
    FInv f s' ord ∧ s'.ops = s.ops := by
  revert hp
  fun_cases setIfNotExistsRaw cfg s ord k v with
  | case1 => intro hp; cases hp; exact ⟨h.mono hb, rfl⟩
  | case2 hl => exact pushDelta_finv (d := ⟨.create, ord, k, [], v⟩) h ((h.getLast k).symm.trans hl) hb

theorem insByKey_perm (p : Bytes × Bytes) (l : KV) : (insByKey p l).Perm (p :: l) := by
  fun_induction insByKey p l with
  | case1 => exact .refl _
  | case2 => exact .refl _
  | case3 q rest _ ih => exact (ih.cons q).trans (.swap p q rest)

theorem sortByKey_perm (l : KV) : (sortByKey l).Perm l := by
  induction l with
  | nil => exact List.Perm.refl _
  | cons p rest ih => exact (insByKey_perm p _).trans (List.Perm.cons p ih)

theorem foldlM_cons_of_ok {α β ε : Type} {g : β → α → Except ε β} {a : α} {l : List α} {s s' : β}
    (h : (a :: l).foldlM g s = .ok s') : ∃ s1, g s a = .ok s1 ∧ l.foldlM g s1 = .ok s' := by
  rw [List.foldlM_cons] at h
  cases h1 : g s a with
  | error e => rw [h1] at h; cases h
  | ok s1 => rw [h1] at h; exact ⟨s1, rfl, h⟩

theorem deleteFold_inv {cfg : Cfg} {f : Content} {ord : Nat} : ∀ (L : KV) (s s' : Store),
    FInv f s ord → (∀ p ∈ L, look s.kv p.1 = some p.2) → (L.map (·.1)).Nodup →
    L.foldlM (fun s p => pushDelta cfg s ⟨.delete, ord, p.1, p.2, []⟩) s = .ok s' →
    FInv f s' ord ∧ s'.ops = s.ops := by
  intro L
  induction L with
  | nil => intro s s' h _ _ hp; cases hp; exact ⟨h, rfl⟩
  | cons p rest ih =>
    intro s s' h hl hnd hp
    obtain ⟨s1, hpd, hp⟩ := foldlM_cons_of_ok hp
    obtain ⟨hp1, hnd⟩ := List.nodup_cons.1 hnd
    obtain ⟨i1, i2, _, i4⟩ :=
      pushDelta_inv (d := ⟨.delete, ord, p.1, p.2, []⟩) h (hl p List.mem_cons_self) (Nat.le_refl _) hpd
    have hl' : ∀ q ∈ rest, look s1.kv q.1 = some q.2 := by
      intro q hq
      rw [i4, stepF_ne]
      · exact hl q (List.mem_cons_of_mem _ hq)
      · exact fun hc => hp1 (List.mem_map.2 ⟨q, hq, hc.symm⟩)
    have := ih s1 s' i1 hl' hnd hp
    exact ⟨this.1, this.2.trans i2⟩

theorem deletePrefixRaw_inv {cfg : Cfg} {f : Content} {s s' : Store} {b ord : Nat} {pfx : Bytes}
    (h : FInv f s b) (hb : b ≤ ord) (hp : deletePrefixRaw cfg s ord pfx = .ok s') :
    FInv f s' ord ∧ s'.ops = s.ops := by
  have hperm := sortByKey_perm (s.kv.filter (fun p => isPrefix pfx p.1))
  refine deleteFold_inv _ s s' (h.mono hb) ?_ ?_ hp
  · intro p hp'
    exact look_of_mem h.nodup (List.mem_filter.1 ((hperm.mem_iff).1 hp')).1
  · exact (hperm.map _).nodup_iff.2 (nodup_filter h.nodup _)

theorem flushOp_ok {cfg : Cfg} {sem : Sem} {s s' : Store} {op : Op} (hp : flushOp cfg sem s op = .ok s') :
    ∃ s1, flushOpBody cfg sem s op = .ok s1 ∧ s' = { s1 with lastOrd := op.ord } := by
  revert hp
  fun_cases flushOp cfg sem s op with
  | case1 => exact nofun
  | case2 s1 h1 => intro hp; cases hp; exact ⟨s1, h1, rfl⟩

theorem flushOp_inv {cfg : Cfg} {sem : Sem} {f : Content} {s s' : Store} {b : Nat} {op : Op}
    (h : FInv f s b) (hb : b ≤ op.ord) (hp : flushOp cfg sem s op = .ok s') :
    FInv f s' op.ord ∧ s'.ops = s.ops := by
  obtain ⟨s1, hbody, rfl⟩ := flushOp_ok hp
  have key : FInv f s1 op.ord ∧ s1.ops = s.ops := by
    revert hbody
    fun_cases flushOpBody cfg sem s op with
    | case1 => exact setRaw_inv h hb
    | case2 => exact setIfNotExistsRaw_inv h hb
    | case3 => exact deletePrefixRaw_inv h hb
    | case4 => exact nofun
    | case5 => exact setRaw_inv h hb
  -- `FInv` does not mention `lastOrd`, the one field `flushOp` sets after the body
  exact ⟨{ key.1 with }, key.2⟩

/-! ### the stable sort of the operation log -/

def OrdSorted (l : List Op) : Prop := l.Pairwise (fun a b => a.ord ≤ b.ord)

/-- as `insByKey_perm`: the model has two insertion sorts -/
theorem insByOrd_perm (o : Op) (l : List Op) : (insByOrd o l).Perm (o :: l) := by
  fun_induction insByOrd o l with
  | case1 => exact .refl _
  | case2 => exact .refl _
  | case3 q rest _ ih => exact (ih.cons q).trans (.swap o q rest)

theorem insByOrd_sorted (o : Op) (l : List Op) (h : OrdSorted l) : OrdSorted (insByOrd o l) := by
  fun_induction insByOrd o l with
  | case1 => exact List.pairwise_singleton _ _
  | case2 q rest hle =>
    refine List.pairwise_cons.2 ⟨fun a ha => ?_, h⟩
    rcases List.mem_cons.1 ha with rfl | ha
    · exact hle
    · exact Nat.le_trans hle ((List.pairwise_cons.1 h).1 a ha)
  | case3 q rest hgt ih =>
    obtain ⟨hq, hr⟩ := List.pairwise_cons.1 h
    refine List.pairwise_cons.2 ⟨fun a ha => ?_, ih hr⟩
    rcases List.mem_cons.1 ((insByOrd_perm o rest).mem_iff.1 ha) with rfl | ha
    · exact Nat.le_of_lt (Nat.lt_of_not_le hgt)
    · exact hq a ha

theorem sortOps_sorted (l : List Op) : OrdSorted (sortOps l) := by
  induction l with
  | nil => exact List.Pairwise.nil
  | cons o rest ih => exact insByOrd_sorted o _ ih

theorem sortOps_perm (l : List Op) : (sortOps l).Perm l := by
  induction l with
  | nil => exact List.Perm.refl _
  | cons o rest ih => exact (insByOrd_perm o _).trans (List.Perm.cons o ih)

theorem sortOps_of_sorted (l : List Op) (h : OrdSorted l) : sortOps l = l := by
  induction l with
  | nil => rfl
  | cons o rest ih =>
    obtain ⟨ho, hr⟩ := List.pairwise_cons.1 h
    show insByOrd o (sortOps rest) = o :: rest
    rw [ih hr]
    cases rest with
    | nil => rfl
    | cons q _ => unfold insByOrd; rw [if_pos (ho q List.mem_cons_self)]

theorem insByOrd_filter (o : Op) (l : List Op) (n : Nat) (hs : OrdSorted l) :
    (insByOrd o l).filter (fun a => a.ord == n) = (o :: l).filter (fun a => a.ord == n) := by
  fun_induction insByOrd o l with
  | case1 => rfl
  | case2 => rfl
  | case3 q rest hgt ih =>
    -- `o` moves behind `q`, whose ordinal is smaller: not both are kept
    simp only [List.filter_cons, ih (List.pairwise_cons.1 hs).2]
    by_cases h1 : o.ord = n <;> by_cases h2 : q.ord = n
    · omega
    all_goals simp [h1, h2]

theorem sortOps_stable (l : List Op) (n : Nat) :
    (sortOps l).filter (fun a => a.ord == n) = l.filter (fun a => a.ord == n) := by
  induction l with
  | nil => rfl
  | cons o rest ih =>
    show (insByOrd o (sortOps rest)).filter _ = _
    rw [insByOrd_filter o _ n (sortOps_sorted rest)]
    simp only [List.filter_cons, ih]

/-! ### Flush -/

/-- the log is sorted, so each operation's ordinal is at least the bound its predecessor left -/
theorem flushFold_inv {cfg : Cfg} {sem : Sem} {f : Content} : ∀ (ops : List Op) (s s' : Store) (b : Nat),
    FInv f s b → OrdSorted ops → (∀ o ∈ ops, b ≤ o.ord) →
    ops.foldlM (flushOp cfg sem) s = .ok s' → ∃ b', FInv f s' b' ∧ s'.ops = s.ops := by
  intro ops
  induction ops with
  | nil => intro s s' b h _ _ hp; cases hp; exact ⟨b, h, rfl⟩
  | cons o rest ih =>
    intro s s' b h hs hb hp
    obtain ⟨s1, hfo, hp⟩ := foldlM_cons_of_ok hp
    obtain ⟨ho, hr⟩ := List.pairwise_cons.1 hs
    obtain ⟨i1, i2⟩ := flushOp_inv h (hb o List.mem_cons_self) hfo
    obtain ⟨b', j1, j2⟩ := ih s1 s' o.ord i1 hr ho hp
    exact ⟨b', j1, j2.trans i2⟩

/-- a store as `NewCall` leaves it before a block: no deltas, consistent size, distinct keys -/
structure Clean (s : Store) : Prop where
  nodup  : NodupKeys s.kv
  deltas : s.deltas = []
  size   : s.size = kvSize s.kv

theorem Clean.finv {s : Store} (h : Clean s) : FInv (look s.kv) s 0 :=
  { nodup := h.nodup
    chain := by rw [h.deltas]; trivial
    kvpost := by rw [h.deltas]; rfl
    sorted := by rw [h.deltas]; exact List.Pairwise.nil
    bounded := by rw [h.deltas]; intro d hd; cases hd
    size := h.size }

theorem flush_inv {cfg : Cfg} {sem : Sem} {s s' : Store} (h : Clean s) (hp : flush cfg sem s = .ok s') :
    ∃ b, FInv (look s.kv) s' b ∧ s'.ops = sortOps s.ops :=
  -- nor does `FInv` mention the log, which `flush` replaces by the sorted one
  flushFold_inv (sortOps s.ops) { s with ops := sortOps s.ops } s' 0 { h.finv with } (sortOps_sorted _)
    (fun _ _ => Nat.zero_le _) hp

theorem record_fold_eq (calls : List Op) (s : Store) :
    calls.foldl record s = { s with ops := s.ops ++ calls } := by
  induction calls generalizing s with
  | nil => simp
  | cons c rest ih => simp only [List.foldl_cons, ih, record, List.append_assoc, List.singleton_append]

theorem record_fold_fields (calls : List Op) (s : Store) :
    (calls.foldl record s).kv = s.kv ∧ (calls.foldl record s).deltas = s.deltas ∧
    (calls.foldl record s).size = s.size ∧ (calls.foldl record s).ops = s.ops ++ calls := by
  rw [record_fold_eq]; exact ⟨rfl, rfl, rfl, rfl⟩

theorem Clean.record_fold {s : Store} (h : Clean s) (calls : List Op) : Clean (calls.foldl record s) := by
  rw [record_fold_eq]; exact ⟨h.nodup, h.deltas, h.size⟩

theorem execBlock_inv {cfg : Cfg} {sem : Sem} {pre post : Store} {calls : List Op} (h : Clean pre)
    (hp : execBlock cfg sem pre calls = .ok post) :
    ∃ b, FInv (look pre.kv) post b ∧ post.ops = sortOps (pre.ops ++ calls) := by
  have := flush_inv (h.record_fold calls) hp
  rwa [record_fold_eq] at this

end SV
