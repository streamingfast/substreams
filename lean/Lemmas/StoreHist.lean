import Lemmas.Store
import Model.Merge
/-! For C09 and C11: flushing a sorted log again changes nothing (`flush_sorted_log`); undoing a delta is applying its
inverse (`Delta.inv`, `undo_spec`); `mergeKey` rewrites at most its one key (`mergeKey_res`), so `SInv` survives a merge. -/
namespace SV

/-- what `Clean` and `FInv` share -/
structure SInv (s : Store) : Prop where
  nodup : NodupKeys s.kv
  size  : s.size = kvSize s.kv

theorem FInv.sinv {f : Content} {s : Store} {b : Nat} (h : FInv f s b) : SInv s := ⟨h.nodup, h.size⟩

theorem SInv.reset {s : Store} (h : SInv s) : Clean (reset s) := ⟨h.nodup, rfl, h.size⟩

theorem flush_ops {cfg : Cfg} {sem : Sem} {s s' : Store} (h : Clean s) (hp : flush cfg sem s = .ok s') :
    s'.ops = sortOps s.ops := by
  obtain ⟨_, _, i2⟩ := flush_inv h hp
  exact i2

theorem flush_sorted_log {cfg : Cfg} {sem : Sem} (s : Store) :
    flush cfg sem { s with ops := sortOps s.ops } = flush cfg sem s := by
  unfold flush
  simp only [sortOps_of_sorted _ (sortOps_sorted s.ops)]

/-! ### the deleted prefixes of `PartialKV` -/

theorem mem_addPfx (dp : List Bytes) (op : Op) (x : Bytes) :
    x ∈ addPfx dp op ↔ (x ∈ dp ∨ (op.kind = .deletePrefix ∧ op.key = x)) := by
  fun_cases addPfx dp op with
  | case1 h => simp [h.1, eq_comm]
  | case2 h =>
    -- a prefix that is not added is there already
    refine ⟨Or.inl, fun h1 => h1.elim id fun ⟨hk, hx⟩ => ?_⟩
    simpa [hk, hx] using h

theorem mem_foldl_addPfx (ops : List Op) : ∀ (dp : List Bytes) (x : Bytes),
    x ∈ ops.foldl addPfx dp ↔ (x ∈ dp ∨ ∃ o ∈ ops, o.kind = .deletePrefix ∧ o.key = x) := by
  induction ops with
  | nil => intro dp x; simp
  | cons c rest ih =>
    intro dp x
    simp only [List.foldl_cons, ih, mem_addPfx, List.mem_cons, exists_eq_or_imp, or_assoc]

theorem partial_record_fold (calls : List Op) : ∀ q : Partial,
    calls.foldl Partial.record q = ⟨calls.foldl record q.store, calls.foldl addPfx q.deletedPrefixes⟩ := by
  induction calls with
  | nil => intro q; rfl
  | cons c rest ih => intro q; simp only [List.foldl_cons, ih]; rfl

/-! ### ApplyDeltasReverse -/

/-- the delta that takes `d` back -/
def Delta.inv (d : Delta) : Delta :=
  ⟨match d.op with | .create => .delete | .update => .update | .delete => .create, d.ord, d.key, d.new, d.old⟩

theorem revDeltaKV_eq (kv : KV) (d : Delta) : revDeltaKV kv d = applyDeltaKV kv d.inv := by
  unfold revDeltaKV applyDeltaKV Delta.inv
  cases d.op <;> rfl

theorem revDeltaSize_eq (n : Nat) (d : Delta) : revDeltaSize n d = applyDeltaSize n d.inv := by
  unfold revDeltaSize applyDeltaSize Delta.inv
  cases d.op
  · rfl
  · -- the same three cases, asked for in another order
    dsimp only
    rcases Nat.lt_trichotomy d.old.length d.new.length with h | h | h
    · rw [if_pos h, if_neg (Nat.lt_asymm h), if_pos h]
    · simp only [h, gt_iff_lt, Nat.lt_irrefl, ↓reduceIte]
    · rw [if_neg (Nat.lt_asymm h), if_pos h, if_pos h]
  · rfl

theorem wfd_inv (f : Content) (d : Delta) : WFd (stepF f d) d.inv := by
  unfold WFd stepF Delta.inv
  cases d.op <;> simp

theorem stepF_inv {f : Content} {d : Delta} (hw : WFd f d) : stepF (stepF f d) d.inv = f := by
  funext k
  unfold WFd at hw
  unfold stepF Delta.inv
  by_cases h : d.key = k
  · subst h
    cases hop : d.op <;> simp only [hop] at hw <;> simp [hw]
  · simp [h]

/-- one step of `applyDeltasReverse` -/
def revOne (s : Store) (d : Delta) : Store := { s with kv := revDeltaKV s.kv d, size := revDeltaSize s.size d }

theorem applyDeltasReverse_snoc (s : Store) (l : List Delta) (d : Delta) :
    applyDeltasReverse s (l ++ [d]) = applyDeltasReverse (revOne s d) l := by
  unfold applyDeltasReverse
  rw [List.reverse_append]
  rfl

theorem revOne_inv {f : Content} {s : Store} {d : Delta} (hw : WFd f d) (hkv : look s.kv = stepF f d)
    (h : SInv s) : look (revOne s d).kv = f ∧ SInv (revOne s d) := by
  have hwi : WFd (look s.kv) d.inv := hkv ▸ wfd_inv f d
  refine ⟨?_, ?_, ?_⟩
  · show look (revDeltaKV s.kv d) = f
    rw [revDeltaKV_eq, look_applyDeltaKV, hkv, stepF_inv hw]
  · show NodupKeys (revDeltaKV s.kv d)
    rw [revDeltaKV_eq]; exact nodup_applyDeltaKV h.nodup _
  · show revDeltaSize s.size d = kvSize (revDeltaKV s.kv d)
    rw [revDeltaSize_eq, revDeltaKV_eq, h.size]; exact applyDeltaSize_eq h.nodup hwi

theorem undo_spec (f : Content) : ∀ (ds : List Delta) (s : Store),
    Chain f ds → look s.kv = postF f ds → NodupKeys s.kv → s.size = kvSize s.kv →
    look (applyDeltasReverse s ds).kv = f ∧ NodupKeys (applyDeltasReverse s ds).kv ∧
    (applyDeltasReverse s ds).size = kvSize (applyDeltasReverse s ds).kv := by
  intro ds
  induction ds using snoc_induction with
  | hnil => intro s _ hkv hn hs; exact ⟨hkv, hn, hs⟩
  | hsnoc l d ih =>
    intro s hch hkv hn hs
    obtain ⟨hcl, hw⟩ := (chain_snoc l d f).1 hch
    rw [postF_snoc] at hkv
    obtain ⟨r1, r2⟩ := revOne_inv hw hkv ⟨hn, hs⟩
    rw [applyDeltasReverse_snoc]
    exact ih (revOne s d) hcl r1 r2.nodup r2.size

/-! ### Merge -/

theorem setKV_inv {s : Store} (h : SInv s) (k v : Bytes) : SInv (setKV s k v) := by
  refine ⟨nodup_ins h.nodup k v, ?_⟩
  have h1 := kvSize_ins s.kv k v
  have h2 := kvSize_ge s.kv k
  unfold setKV
  cases hl : look s.kv k <;> simp only [hl, entrySize] at h1 h2 ⊢ <;> rw [h.size] <;> omega

theorem setNewKV_inv {s : Store} (h : SInv s) (k v : Bytes) (hl : look s.kv k = none) : SInv (setNewKV s k v) := by
  refine ⟨nodup_ins h.nodup k v, ?_⟩
  have h1 := kvSize_ins s.kv k v
  rw [hl] at h1
  show s.size + (k.length + v.length) = kvSize (ins s.kv k v)
  rw [h.size]; exact h1.symm

/-- the outcomes of `mergeKey cfg s k v`; `setNewKV`, which does not look for an old value, only where the key is absent -/
inductive MergeRes (s : Store) (k : Bytes) : Option (Except SErr Store) → Prop
  | panic : MergeRes s k none
  | error (e : SErr) : MergeRes s k (some (.error e))
  | keep : MergeRes s k (some (.ok s))
  | put (x : Bytes) : MergeRes s k (some (.ok (setKV s k x)))
  | putNew (x : Bytes) : look s.kv k = none → MergeRes s k (some (.ok (setNewKV s k x)))

theorem mergeKey_res (cfg : Cfg) (s : Store) (k v : Bytes) : MergeRes s k (mergeKey cfg s k v) := by
  -- with policy and value type concrete, `dsimp` leaves the one branch of `mergeKey` that applies;
  -- splitting the whole definition at once would split on the inner conditions first, for every policy
  obtain ⟨policy, vt, al, tl, il⟩ := cfg
  cases policy
  case unset => exact .error _
  case set => exact .put v
  case setIfNotExists =>
    dsimp only [mergeKey]
    split
    · exact .keep
    · exact .putNew _ (Option.not_isSome_iff_eq_none.1 ‹_›)
  case append =>
    dsimp only [mergeKey]
    split
    · split
      · exact .error _
      · exact .put _
    · exact .putNew _ ‹_›
  case add =>
    cases vt <;> dsimp only [mergeKey]
    case bytes => exact .error _
    case int64 => exact .put _
    case float64 => exact .put _
    all_goals split <;> first | exact .put _ | exact .panic
  case setSum =>
    cases vt
    case bytes => dsimp only [mergeKey]; split <;> exact .keep
    all_goals dsimp only [mergeKey]; split
    all_goals first | exact .put _ | split <;> first | exact .put _ | exact .panic
  -- max and min
  all_goals
    cases vt <;> dsimp only [mergeKey]
    case bytes => exact .error _
    case int64 => split; exact .putNew _ ‹_›; exact .put _
    case float64 => split; exact .putNew _ ‹_›; exact .put _
    all_goals
      split
      · exact .panic
      · split
        · exact .putNew _ ‹_›
        · split
          · exact .panic
          · exact .put _

theorem mergeKey_inv {cfg : Cfg} {s s' : Store} {k v : Bytes} (h : SInv s)
    (hm : mergeKey cfg s k v = some (.ok s')) : SInv s' := by
  have hr := mergeKey_res cfg s k v
  rw [hm] at hr
  cases hr with
  | keep => exact h
  | put x => exact setKV_inv h k x
  | putNew x hl => exact setNewKV_inv h k x hl

end SV
