import Lemmas.ValidateHash
/-!
For C17: what `ValidateModules` establishes (`ModsOK`), one lemma per stage
(`Ensures (stage …) (what the later stages rely on)`, the earlier stages' postconditions as hypotheses),
and the two pipelines as their stages bound in sequence.
-/
namespace SV.Val

/-! ### the two Go maps of ValidateModules -/

theorem lookupKind_none_iff {nm : Str} {mk : List (Str × Kind)} :
    lookupKind nm mk = none ↔ nm ∉ mk.map (·.1) := by
  fun_induction lookupKind nm mk with
  | case1 => simp
  | case2 => simp
  | case3 k r v h ih => simp [ih, Ne.symm h]

theorem mem_of_lookupMod {nm : Str} {sm : Module} {pre : List Module}
    (h : lookupMod nm (pre.map fun m => (m.name, m)) = some sm) : sm ∈ pre ∧ sm.name = nm := by
  induction pre with
  | nil => cases h
  | cons a r ih =>
    simp only [List.map_cons, lookupMod] at h
    split at h
    · cases h; exact ⟨List.mem_cons_self, ‹_›⟩
    · exact ⟨List.mem_cons_of_mem _ (ih h).1, (ih h).2⟩

/-- `mapModuleKind` and `mapModules` after the first loop has seen `pre` -/
structure MapsInv (pre : List Module) (mk : List (Str × Kind)) (mm : List (Str × Module)) : Prop where
  keys : mk.map (·.1) = pre.map (·.name)
  mods : mm = pre.map fun m => (m.name, m)
  nodup : (pre.map (·.name)).Nodup
  kinds : ∀ m ∈ pre, m.kind ≠ none

theorem MapsInv.exists_of_lookupKind {pre : List Module} {mk : List (Str × Kind)} {mm : List (Str × Module)}
    (inv : MapsInv pre mk mm) {nm : Str} (h : (lookupKind nm mk).isSome) : ∃ m ∈ pre, m.name = nm := by
  have : nm ∈ mk.map (·.1) := Classical.not_not.1 fun hn => by
    rw [lookupKind_none_iff.2 hn] at h; cases h
  rw [inv.keys] at this
  exact List.mem_map.1 this

theorem buildMaps_spec : ∀ (r pre : List Module) (mk : List (Str × Kind)) (mm : List (Str × Module)),
    MapsInv pre mk mm → Ensures (buildMaps r mk mm) fun p => MapsInv (pre ++ r) p.1 p.2 := by
  intro r
  induction r with
  | nil => intro pre mk mm inv; simpa [buildMaps] using inv
  | cons m r ih =>
    intro pre mk mm inv
    unfold buildMaps
    refine .guard fun hdup => .guard fun hkind => ?_
    cases hk : m.kind with
    | none => simp [hk] at hkind
    | some k =>
      simp only [Module.moduleKind, hk, bind_ok]
      have hnotin : m.name ∉ pre.map (·.name) := by
        rw [← inv.keys]; exact lookupKind_none_iff.1 (by simpa using hdup)
      have inv' : MapsInv (pre ++ [m]) (mk ++ [(m.name, k)]) (mm ++ [(m.name, m)]) := by
        refine ⟨by simp [inv.keys], by simp [inv.mods], ?_, ?_⟩
        · rw [List.map_append]
          refine List.nodup_append.2 ⟨inv.nodup, by simp, fun x hx y hy hxy => hnotin ?_⟩
          rw [List.map_singleton, List.mem_singleton] at hy
          exact hy ▸ hxy ▸ hx
        · intro x hx
          rcases List.mem_append.1 hx with hx | hx
          · exact inv.kinds x hx
          · rw [List.mem_singleton.1 hx, hk]; nofun
      exact (ih (pre ++ [m]) _ _ inv').mono fun p hp => by simpa [List.append_assoc] using hp

def InputOK (mk : List (Str × Kind)) : Option InputK → Prop
  | none => False
  | some (.map n) => (lookupKind n mk).isSome
  | some (.store n _) => (lookupKind n mk).isSome
  | _ => True

theorem checkValidInputs_spec (mk : List (Str × Kind)) (ins : List (Option InputK)) (idx : Nat) :
    Ensures (checkValidInputs mk ins idx) fun _ => ∀ i ∈ ins, InputOK mk i := by
  fun_induction checkValidInputs mk ins idx
  case case1 => exact ensures_ok.2 fun _ h => nomatch h
  case case4 ih => exact ih.mono fun _ hr => List.forall_mem_cons.2 ⟨trivial, hr⟩
  case case6 ih => exact ih.mono fun _ hr => List.forall_mem_cons.2 ⟨trivial, hr⟩
  case case9 hl _ ih => exact ih.mono fun _ hr => List.forall_mem_cons.2 ⟨by simp [InputOK, hl], hr⟩
  case case12 hl _ _ ih => exact ih.mono fun _ hr => List.forall_mem_cons.2 ⟨by simp [InputOK, hl], hr⟩
  -- the remaining branches reject
  all_goals exact ensures_error

theorem checkValidBlockFilter_spec {all : List Module} {mk : List (Str × Kind)} {mm : List (Str × Module)}
    (inv : MapsInv all mk mm) (m : Module) :
    Ensures (checkValidBlockFilter m mm) fun _ =>
      ∀ bf, m.blockFilter = some bf → ∃ m' ∈ all, m'.name = bf.module := by
  unfold checkValidBlockFilter
  cases hbf : m.blockFilter with
  | none => exact ensures_ok.2 nofun
  | some bf =>
    simp only
    cases hl : lookupMod bf.module mm with
    | none => exact ensures_error
    | some sm =>
      obtain ⟨hsm, hsn⟩ := mem_of_lookupMod (inv.mods ▸ hl)
      -- `ModuleKind()` of the filter module: every module entered in the maps has a kind
      cases hkk : sm.kind with
      | none => exact absurd hkk (inv.kinds sm hsm)
      | some k =>
        simp only [Module.moduleKind, hkk, bind_ok]
        exact .guard fun _ => .guard fun _ => ensures_ok.2 fun bf' h => by cases h; exact ⟨sm, hsm, hsn⟩

theorem moduleNameOk_ne {n : Str} (h : moduleNameOk n = true) : n ≠ [] := by
  intro hn; subst hn
  simp [moduleNameOk, splitOn, nameSegmentOk] at h

/-- per module, by the second loop of `ValidateModules` -/
structure ModOK (all : List Module) (m : Module) : Prop where
  nameNe : m.name ≠ []
  present : ∀ i ∈ m.inputs, i ≠ none
  refs : ∀ nm ∈ depNames m, ∃ m' ∈ all, m'.name = nm
  inputCount : m.inputs.length ≤ 30

theorem checkModules_spec {all : List Module} {mk : List (Str × Kind)} {mm : List (Str × Module)}
    (inv : MapsInv all mk mm) :
    ∀ (l : List Module), Ensures (checkModules mk mm l) fun _ => ∀ m ∈ l, ModOK all m := by
  intro l
  induction l with
  | nil => simp [checkModules]
  | cons m r ih =>
    unfold checkModules
    refine .guard fun hname => .guard fun hcnt => ?_
    refine (checkValidBlockFilter_spec inv m).bind fun _ hb =>
      (checkValidInputs_spec mk m.inputs 0).bind fun _ hi => ih.mono fun _ hr => ?_
    refine List.forall_mem_cons.2 ⟨⟨moduleNameOk_ne (by simpa using hname), ?_, ?_, Nat.le_of_not_lt hcnt⟩, hr⟩
    · intro i hi' hnone
      subst hnone
      exact hi none hi'
    · intro nm hnm
      rcases mem_depNames.1 hnm with h | ⟨md, h⟩ | ⟨bf, hbf, rfl⟩
      · exact inv.exists_of_lookupKind (hi _ h)
      · exact inv.exists_of_lookupKind (hi _ h)
      · exact hb bf hbf

theorem validateModules_spec (ms : Modules) :
    Ensures (validateModules ms) fun _ => ModsOK ms.modules ∧ sumCode ms.binaries ≤ 300000000 := by
  unfold validateModules
  refine .guard fun hsum => .guard fun hcount => ?_
  have inv0 : MapsInv [] [] [] := ⟨rfl, rfl, List.nodup_nil, nofun⟩
  refine (buildMaps_spec ms.modules [] [] [] inv0).bind fun p inv => ?_
  rw [List.nil_append] at inv
  refine (checkModules_spec inv ms.modules).mono fun _ hall => ⟨?_, Nat.le_of_not_lt hsum⟩
  exact ⟨inv.nodup, fun m hm => (hall m hm).nameNe, inv.kinds, fun m hm => (hall m hm).present,
    fun m hm => (hall m hm).refs, Nat.le_of_not_lt hcount, fun m hm => (hall m hm).inputCount⟩

/-! ### stage 1: ValidateTier1Request -/

theorem validateBinaryTypes_good : ∀ (bs : List Binary), Good (validateBinaryTypes bs) := by
  intro bs
  induction bs with
  | nil => trivial
  | cons b r ih =>
    unfold validateBinaryTypes
    cases parseWASMCodeType b.type with
    | none => trivial
    | some id => exact .ite (fun _ => ih) fun _ => trivial

theorem validateModuleGraph_good (ms : List Module) (out bt : Str) : Good (validateModuleGraph ms out bt) :=
  (newModuleGraph_spec ms).bind fun g _ => (ancestorsOf_good g out).bind fun _ _ =>
    .ite (fun _ => trivial) fun _ => trivial

theorem requestValidate_spec (r : Request) : Ensures (requestValidate r) fun ms => r.modules = some ms := by
  unfold requestValidate
  cases r.modules with
  | none => trivial
  | some ms =>
    refine .guard fun _ => .guard fun _ => ?_
    cases outputLoop r.outputModule ms.modules false with
    | none => trivial
    | some found =>
      cases found with
      | false => trivial
      | true => exact .ite (fun _ => rfl) fun _ => trivial

theorem validateRequest_spec (ms : Modules) (out bt : Str) :
    Ensures (validateRequest ms out bt) fun _ => ModsOK ms.modules ∧ sumCode ms.binaries ≤ 300000000 :=
  (validateBinaryTypes_good _).bind fun _ _ => (validateModules_spec ms).bind fun _ h =>
    (validateModuleGraph_good _ _ _).mono fun _ _ => h

theorem validateTier1Request_spec (r : Request) (bt : Str) :
    Ensures (validateTier1Request r bt) fun ms =>
      r.modules = some ms ∧ ModsOK ms.modules ∧ sumCode ms.binaries ≤ 300000000 :=
  (requestValidate_spec r).bind fun ms hr => (validateRequest_spec ms _ _).bind fun _ h => ⟨hr, h⟩

theorem modsOK_of_validated {r : Request} {bt : Str} {ms : Modules}
    (h : validateTier1Request r bt = .ok ms) : ModsOK ms.modules :=
  ((validateTier1Request_spec r bt).of_ok h).2.1

/-! ### stage 2: NewOutputModuleGraph -/

structure ExecGraphOK (ms : List Module) (eg : ExecGraph) : Prop where
  stages : StagesOK eg.used eg.stages
  usedNe : eg.used ≠ []
  usedLen : eg.used.length ≤ ms.length
  lowestStores : eg.lowestStoresInit = computeLowestStoresInitBlock eg.used 0 ∨ True
  storesSome : (∃ m ∈ eg.used, m.isStore = true) → eg.lowestStoresInit ≠ none

theorem computeLowestStoresInitBlock_some (used : List Module) (first : Nat)
    (h : ∃ m ∈ used, m.isStore = true) : computeLowestStoresInitBlock used first ≠ none := by
  obtain ⟨m, hm, hs⟩ := h
  unfold computeLowestStoresInitBlock
  have hne : ((used.filter Module.isStore).map (·.initialBlock)).isEmpty = false := by
    have : m ∈ used.filter Module.isStore := List.mem_filter.2 ⟨hm, hs⟩
    cases hf : used.filter Module.isStore with
    | nil => rw [hf] at this; cases this
    | cons a r => rfl
  simp only [hne, Bool.false_eq_true, if_false]
  split <;> simp

theorem initBlocks_good (first : Nat) : ∀ (l : List Module) (acc : List (Str × Nat)),
    Good (initBlocks first l acc) := by
  intro l
  induction l with
  | nil => intro acc; trivial
  | cons m r ih =>
    intro acc
    unfold initBlocks
    exact .ite (fun _ => ih _) fun _ => .guard fun _ => ih _

/-- the explicit `panic` of `computeOutputModule` is not reached -/
theorem computeOutputModule_good : ∀ (used : List Module) (out : Str), (∃ m ∈ used, m.name = out) →
    Good (computeOutputModule used out) := by
  intro used
  induction used with
  | nil => intro out ⟨m, hm, _⟩; cases hm
  | cons a r ih =>
    intro out ⟨m, hm, hn⟩
    unfold computeOutputModule
    refine .ite (fun _ => trivial) fun ha => ih out ?_
    rcases List.mem_cons.1 hm with rfl | hm
    · exact absurd hn ha
    · exact ⟨m, hm, hn⟩

theorem storesDownTo_good (g : MGraph) (name : Str) : Good (g.storesDownTo name) := by
  unfold MGraph.storesDownTo
  refine .guard fun _ => ?_
  cases lookupIdx name g.ms with
  | none => trivial
  | some v => exact (modulesAt_filter g.ms _).bind fun _ _ => trivial

theorem computeSchedulableAncestors_good (g : MGraph) : ∀ (l : List Module),
    Good (computeSchedulableAncestors g l) := by
  intro l
  induction l with
  | nil => trivial
  | cons m r ih => exact (ancestorsOf_good g m.name).bind fun _ _ => ih

theorem computeGraph_spec {ms : Modules} (hM : ModsOK ms.modules) (out : Str) (prod : Bool) (first : Nat) :
    Ensures (computeGraph out prod ms first) (ExecGraphOK ms.modules) := by
  unfold computeGraph
  refine (newModuleGraph_spec ms.modules).bind fun g hg => ?_
  refine (modulesDownTo_spec hg hM out).bind fun used ⟨hU, hidx, hout, hulen⟩ => ?_
  refine (initBlocks_good first used []).bind fun tbl _ => ?_
  refine (computeStages_spec hU tbl).bind fun stages hS => ?_
  refine (hashModules_good hg hM.nodup ms used hidx).bind fun _ _ => ?_
  refine (computeOutputModule_good used out hout).bind fun om _ => ?_
  refine (storesDownTo_good g om.name).bind fun stores _ => ?_
  refine (computeSchedulableAncestors_good g _).bind fun _ _ => ensures_ok.2 ?_
  obtain ⟨m, hm, _⟩ := hout
  exact ⟨hS, List.ne_nil_of_mem hm, hulen, Or.inr trivial, computeLowestStoresInitBlock_some used first⟩

theorem execGraphOK_of_ok {r : Request} {cfg : Cfg} {ms : Modules} {eg : ExecGraph}
    (h : validateTier1Request r cfg.blockType = .ok ms) (hg : stageGraph r ms cfg = .ok eg) :
    ExecGraphOK ms.modules eg :=
  (computeGraph_spec (modsOK_of_validated h) _ _ _).of_ok hg

/-! ### stage 3: the first lines of blocks() and BuildRequestDetails -/

theorem modSeg_eq (x : Nat) {seg : Nat} (h : 0 < seg) : modSeg x seg = .ok (x % seg) := by
  unfold modSeg
  have : seg ≠ 0 := by omega
  simp [this]

theorem divSeg_eq (x : Nat) {seg : Nat} (h : 0 < seg) : divSeg x seg = .ok (x / seg) := by
  unfold divSeg
  have : seg ≠ 0 := by omega
  simp [this]

/-- the only partial operation is `% seg` -/
theorem computeLinearHandoff_good (prod : Bool) (start stop : Nat) (rf sra : Option Nat) {seg : Nat}
    (h : 0 < seg) : Good (computeLinearHandoff prod start stop rf sra seg) := by
  unfold computeLinearHandoff
  simp only [modSeg_eq _ h, bind_ok]
  refine .ite (fun _ => ?_) fun _ => .ite (fun _ => trivial) fun _ => .ite (fun _ => trivial) fun _ => ?_
  · cases rf with
    | none => exact .guard fun _ => trivial
    | some lib => exact .ite (fun _ => .ite (fun _ => trivial) fun _ => trivial) fun _ => trivial
  · cases rf with
    | none => trivial
    | some lib => exact .ite (fun _ => trivial) fun _ => trivial

theorem resolveStartBlockNum_good (start : Int) (stop : Nat) (cur : Cursor) (cfg : Cfg) :
    Good (resolveStartBlockNum start stop cur cfg) := by
  unfold resolveStartBlockNum
  refine Ensures.bind (P := fun _ => True) ?_ fun s _ => ?_
  · refine .ite (fun _ => ?_) fun _ => trivial
    cases cfg.headBlock <;> trivial
  · cases cur with
    | none => trivial
    | invalid => trivial
    | valid step blk lib =>
      refine .guard fun _ => .ite (fun _ => trivial) fun _ => .guard fun _ => ?_
      cases cfg.resolve with
      | err => trivial
      | noJunction => trivial
      | junction j => exact .ite (fun _ => trivial) fun _ => trivial

theorem reprocStateRequired_good (start : Nat) (out : Str) (ms : List Module) :
    Good (reprocStateRequired start out ms) :=
  (newModuleGraph_spec ms).bind fun g _ => (storesDownTo_good g out).bind fun _ _ => trivial

theorem stageDetails_good (r : Request) (ms : Modules) (cfg : Cfg) (hseg : 0 < cfg.segmentSize) :
    Good (stageDetails r ms cfg) := by
  unfold stageDetails
  cases adjustStart r.startBlockNum r.stopBlockNum cfg.firstStreamable with
  | none => trivial
  | some s =>
    exact (resolveStartBlockNum_good _ _ _ _).bind fun rs _ => (reprocStateRequired_good _ _ _).bind
      fun sra _ => (computeLinearHandoff_good _ _ _ _ _ hseg).bind fun _ _ => trivial

/-! ### stages 4 and 5: the start/stop checks, BuildTier1RequestPlan -/

theorem stageChecks_good (r : Request) (eg : ExecGraph) (d : Details) : Good (stageChecks r eg d) :=
  .guard fun _ => .guard fun _ => trivial

theorem segRangeStart_good (seg init end_ : Nat) (idx : Int) (h : 0 < seg) :
    Good (segRangeStart seg init end_ idx) := by
  unfold segRangeStart
  simp only [divSeg_eq _ h, bind_ok]
  exact .ite (fun _ => trivial) fun _ => .ite (fun _ => .ite (fun _ => trivial) fun _ => trivial)
    fun _ => .ite (fun _ => trivial) fun _ => trivial

/-- the only partial operations are the two `/ seg` -/
theorem buildTier1RequestPlan_good (prod : Bool) (seg li ls start handoff stop : Nat) (sched : Bool)
    (h : 0 < seg) : Good (buildTier1RequestPlan prod seg li ls start handoff stop sched) := by
  unfold buildTier1RequestPlan
  simp only [divSeg_eq _ h, bind_ok]
  refine .guard fun _ => .ite (fun _ => trivial) fun _ =>
    .ite (fun _ => .ite (fun _ => ?_) fun _ => trivial) fun _ => trivial
  exact (segRangeStart_good _ _ _ _ h).bind fun w _ => by cases w <;> trivial

theorem scheduleStoresOf_good {ms : List Module} {eg : ExecGraph} (h : ExecGraphOK ms eg) :
    Good (scheduleStoresOf eg) := by
  unfold scheduleStoresOf
  have hne := h.stages.ne h.usedNe
  cases hst : eg.stages with
  | nil => exact absurd hst hne
  | cons st rest =>
    simp only
    have hstmem : st ∈ eg.stages := by rw [hst]; exact List.mem_cons_self
    have hstne := h.stages.stageNe st hstmem
    cases hlast : st.getLast? with
    | none => exact absurd (List.getLast?_eq_none_iff.1 hlast) hstne
    | some layer =>
      simp only
      have hlmem : layer ∈ st := List.mem_of_getLast? hlast
      have hlne := h.stages.layerNe st hstmem layer hlmem
      cases layer with
      | nil => exact absurd rfl hlne
      | cons a t =>
        simp only [isStoreLayer, bind_ok]
        refine .ite (fun hs => ?_) fun _ => trivial
        have ha : a ∈ eg.used := (h.stages.sub st hstmem _ hlmem).subset List.mem_cons_self
        cases hl : eg.lowestStoresInit with
        | none => exact absurd hl (h.storesSome ⟨a, ha, hs⟩)
        | some l => trivial

theorem stagePlan_good {ms : List Module} (r : Request) {eg : ExecGraph} (h : ExecGraphOK ms eg)
    (d : Details) (cfg : Cfg) (hseg : 0 < cfg.segmentSize) : Good (stagePlan r eg d cfg) :=
  (scheduleStoresOf_good h).bind fun _ _ => buildTier1RequestPlan_good _ _ _ _ _ _ _ _ hseg

/-! ### tier2: ProcessRangeRequest.Validate, ValidateTier2Request, the stage check of processRange -/

theorem requestValidateT2_good (r : T2Request) : Good (requestValidateT2 r) := by
  unfold requestValidateT2
  refine .guard fun _ => ?_
  cases r.modules with
  | none => trivial
  | some ms =>
    -- seven more checks on single fields, then the output module must be among the modules
    iterate 7 refine .guard fun _ => ?_
    exact .ite (fun _ => trivial) fun _ => trivial

theorem validateTier2Request_spec (r : T2Request) :
    Ensures (validateTier2Request r) fun ms => ModsOK ms.modules :=
  (requestValidateT2_good r).bind fun ms _ => (validateRequest_spec ms _ _).bind fun _ h => h.1

/-- processRange checks the stage number before it indexes the stages with it -/
theorem checkStage_guards (eg : ExecGraph) (stage : Nat) :
    Good ((checkStage eg stage).bind fun _ => usedModulesUpToStage eg stage) := by
  unfold checkStage usedModulesUpToStage
  by_cases h : eg.stages.length ≤ stage
  · simp [h]
  · have h' : stage < eg.stages.length := by omega
    simp [h, h']

/-! ### `pipeline`, `pipelineTier2`: the stages bound in sequence -/

theorem pipeline_eq_bind (r : Request) (cfg : Cfg) : pipeline r cfg =
    (validateTier1Request r cfg.blockType).bind fun ms => (stageGraph r ms cfg).bind fun eg =>
      (stageDetails r ms cfg).bind fun d => (stageChecks r eg d).bind fun _ =>
        (stagePlan r eg d cfg).bind fun p => .ok ⟨eg, d, p⟩ := by
  unfold pipeline pipelineStaged
  cases validateTier1Request r cfg.blockType with
  | ok ms =>
    simp only [bind_ok]
    cases stageGraph r ms cfg with
    | ok eg =>
      simp only [bind_ok]
      cases stageDetails r ms cfg with
      | ok d =>
        simp only [bind_ok]
        cases stageChecks r eg d with
        | ok _ => simp only [bind_ok]; cases stagePlan r eg d cfg <;> rfl
        | _ => rfl
      | _ => rfl
    | _ => rfl
  | _ => rfl

theorem pipelineTier2_eq_bind (r : T2Request) : pipelineTier2 r =
    (validateTier2Request r).bind fun ms => (computeGraph r.outputModule true ms r.firstStreamable).bind
      fun eg => ((checkStage eg r.stage).bind fun _ => usedModulesUpToStage eg r.stage).bind
        fun l => .ok ⟨eg, l⟩ := by
  unfold pipelineTier2 pipelineTier2Staged
  cases validateTier2Request r with
  | ok ms =>
    simp only [bind_ok]
    cases computeGraph r.outputModule true ms r.firstStreamable with
    | ok eg =>
      simp only [bind_ok]
      cases (checkStage eg r.stage).bind fun _ => usedModulesUpToStage eg r.stage <;> rfl
    | _ => rfl
  | _ => rfl

end SV.Val
