import Model.Validate
/-!
For C17: the triple `Ensures` for `Outcome` with its rules, and the module graph: edges in range, the
peeling order is a topological order, reachability is closed, what `newModuleGraph = ok g` gives (`GraphOK`).
-/
namespace SV.Val

/-- the form of every stage lemma of C17: no panic, no hang, and a returned value satisfies `P` -/
def Ensures {α : Type} (o : Outcome α) (P : α → Prop) : Prop :=
  match o with
  | .ok a => P a
  | .error => True
  | .panic => False
  | .hang => False

abbrev Good {α : Type} (o : Outcome α) : Prop := Ensures o fun _ => True

@[simp] theorem ensures_ok {α : Type} {P : α → Prop} {a : α} : Ensures (.ok a) P ↔ P a := Iff.rfl
@[simp] theorem ensures_error {α : Type} {P : α → Prop} : Ensures (.error : Outcome α) P := trivial

@[simp] theorem bind_ok {α β : Type} (a : α) (f : α → Outcome β) : (Outcome.ok a).bind f = f a := rfl
@[simp] theorem bind_error {α β : Type} (f : α → Outcome β) : (Outcome.error).bind f = .error := rfl
@[simp] theorem bind_panic {α β : Type} (f : α → Outcome β) : (Outcome.panic).bind f = .panic := rfl
@[simp] theorem bind_hang {α β : Type} (f : α → Outcome β) : (Outcome.hang).bind f = .hang := rfl

theorem Ensures.bind {α β : Type} {o : Outcome α} {f : α → Outcome β} {P : α → Prop} {Q : β → Prop}
    (h : Ensures o P) (hf : ∀ a, P a → Ensures (f a) Q) : Ensures (o.bind f) Q := by
  cases o with
  | ok a => exact hf a h
  | error => trivial
  | panic => exact h
  | hang => exact h

theorem Ensures.mono {α : Type} {o : Outcome α} {P Q : α → Prop} (h : Ensures o P) (hPQ : ∀ a, P a → Q a) :
    Ensures o Q := by
  cases o with
  | ok a => exact hPQ a h
  | _ => exact h

theorem Ensures.ite {α : Type} {c : Prop} [Decidable c] {a b : Outcome α} {P : α → Prop}
    (ha : c → Ensures a P) (hb : ¬ c → Ensures b P) : Ensures (if c then a else b) P := by
  split
  · exact ha ‹_›
  · exact hb ‹_›

theorem Ensures.guard {α : Type} {c : Prop} [Decidable c] {k : Outcome α} {P : α → Prop}
    (h : ¬ c → Ensures k P) : Ensures (if c then .error else k) P :=
  .ite (fun _ => ensures_error) h

theorem Ensures.of_ok {α : Type} {o : Outcome α} {P : α → Prop} {a : α} (h : Ensures o P) (ho : o = .ok a) :
    P a := by
  subst ho; exact h

theorem Ensures.ne_bad {α : Type} {o : Outcome α} {P : α → Prop} (h : Ensures o P) :
    o ≠ .panic ∧ o ≠ .hang := by
  cases o with
  | panic => exact h.elim
  | hang => exact h.elim
  | _ => exact ⟨nofun, nofun⟩

theorem foldOutcome_ensures {σ α : Type} {step : σ → α → Outcome σ} {I : σ → Prop} (l : List α)
    (h : ∀ a ∈ l, ∀ s, I s → Ensures (step s a) I) : ∀ s, I s → Ensures (foldOutcome step s l) I := by
  induction l with
  | nil => exact fun s hs => hs
  | cons a r ih =>
    exact fun s hs => (h a List.mem_cons_self s hs).bind
      (ih fun b hb => h b (List.mem_cons_of_mem _ hb))

theorem subset_of_nodup_of_length_le {α : Type} [DecidableEq α] {l l' : List α} (hnd : l.Nodup)
    (hsub : ∀ x ∈ l, x ∈ l') (hlen : l'.length ≤ l.length) : ∀ v ∈ l', v ∈ l := by
  intro v hv
  apply Classical.byContradiction
  intro hnot
  have h1 : l.length ≤ (l'.erase v).length :=
    List.Nodup.length_le_of_subset hnd fun x hx =>
      (List.mem_erase_of_ne fun (h : x = v) => hnot (h ▸ hx)).2 (hsub x hx)
  rw [List.length_erase_of_mem hv] at h1
  have := List.length_pos_of_mem hv
  omega

theorem lt_length_of_getElem? {α : Type} {l : List α} {i : Nat} {a : α} (h : l[i]? = some a) :
    i < l.length :=
  (List.getElem?_eq_some_iff.1 h).1

/-! ### `lookupIdx`: the Go map `g.moduleIndex`, the last module of a name wins -/

theorem lookupIdx_some {name : Str} {ms : List Module} {j : Nat} (h : lookupIdx name ms = some j) :
    ∃ m, ms[j]? = some m ∧ m.name = name := by
  fun_induction lookupIdx name ms generalizing j with
  | case1 => cases h
  | case2 m r j' hj' ih => cases h; exact ih hj'
  | case3 m r _ hn => cases h; exact ⟨m, rfl, hn⟩
  | case4 => cases h

theorem lookupIdx_lt {name : Str} {ms : List Module} {j : Nat} (h : lookupIdx name ms = some j) :
    j < ms.length := by
  obtain ⟨m, hm, _⟩ := lookupIdx_some h
  exact lt_length_of_getElem? hm

theorem exists_lookupIdx_of_name {ms : List Module} {nm : Str} (h : ∃ m ∈ ms, m.name = nm) :
    ∃ j, lookupIdx nm ms = some j := by
  fun_induction lookupIdx nm ms with
  | case1 => obtain ⟨_, hm, _⟩ := h; cases hm
  | case2 => exact ⟨_, rfl⟩
  | case3 => exact ⟨_, rfl⟩
  | case4 a r hr hne ih =>
    obtain ⟨m, hm, hn⟩ := h
    rcases List.mem_cons.1 hm with rfl | hm
    · exact absurd hn hne
    · obtain ⟨j, hj⟩ := ih ⟨m, hm, hn⟩; rw [hr] at hj; cases hj

theorem lookupIdx_of_getElem {ms : List Module} (hnd : (ms.map (·.name)).Nodup) {i : Nat} {m : Module}
    (h : ms[i]? = some m) : lookupIdx m.name ms = some i := by
  induction ms generalizing i with
  | nil => simp at h
  | cons a r ih =>
    rw [List.map_cons, List.nodup_cons] at hnd
    unfold lookupIdx
    cases i with
    | zero =>
      cases h
      cases hr : lookupIdx m.name r with
      | some j =>
        obtain ⟨m', hm', hn⟩ := lookupIdx_some hr
        exact absurd (List.mem_map.2 ⟨m', List.mem_of_getElem? hm', hn⟩) hnd.1
      | none => simp
    | succ k => rw [ih hnd.2 (by simpa using h)]

/-! ### edges are in range: `AddCost` never panics -/

def AdjOK (adj : List (List Nat)) : Prop := ∀ l ∈ adj, ∀ w ∈ l, w < adj.length

theorem mem_edgesOf {ms : List Module} {m : Module} {j : Nat} :
    j ∈ edgesOf ms m ↔ (∃ i ∈ m.inputs, inputEdge ms i = some j) ∨
      ∃ bf, m.blockFilter = some bf ∧ lookupIdx bf.module ms = some j := by
  unfold edgesOf
  rw [List.mem_append, List.mem_filterMap]
  cases m.blockFilter <;> simp

theorem edgesOf_lt (ms : List Module) (m : Module) : ∀ w ∈ edgesOf ms m, w < ms.length := by
  intro w hw
  rcases mem_edgesOf.1 hw with ⟨i, _, hi⟩ | ⟨bf, _, hj⟩
  · unfold inputEdge at hi
    split at hi
    · split at hi
      · cases hi
      · exact lookupIdx_lt hi
    · split at hi
      · cases hi
      · exact lookupIdx_lt hi
    · cases hi
  · exact lookupIdx_lt hj

theorem succs_lt {adj : List (List Nat)} (h : AdjOK adj) {v w : Nat} (hw : w ∈ succs adj v) :
    w < adj.length := by
  unfold succs at hw
  rw [List.getD_eq_getElem?_getD] at hw
  cases hv : adj[v]? with
  | none => simp [hv] at hw
  | some l => simp [hv] at hw; exact h l (List.mem_of_getElem? hv) w hw

theorem succs_map {ms : List Module} {v : Nat} {m : Module} (h : ms[v]? = some m) :
    succs (ms.map (edgesOf ms)) v = edgesOf ms m := by
  unfold succs
  rw [List.getD_eq_getElem?_getD]
  simp [h]

/-! ### `topoOrder` (`graph.TopSort`): the peeling order is a topological order -/

structure TopoInv (adj : List (List Nat)) (done : List Nat) : Prop where
  nodup : done.Nodup
  lt : ∀ v ∈ done, v < adj.length
  before : ∀ v ∈ done, ∀ w ∈ succs adj v, w ∈ done ∧ done.idxOf w < done.idxOf v

theorem mem_peelRound {adj : List (List Nat)} {done : List Nat} {v : Nat} :
    v ∈ peelRound adj done ↔ v < adj.length ∧ v ∉ done ∧ ∀ w ∈ succs adj v, w ∈ done := by
  unfold peelRound
  simp [List.mem_filter, List.mem_range, List.all_eq_true]

theorem topoInv_step {adj : List (List Nat)} {done : List Nat} (h : TopoInv adj done) :
    TopoInv adj (done ++ peelRound adj done) := by
  refine ⟨?_, ?_, ?_⟩
  · apply List.nodup_append.2
    refine ⟨h.nodup, ?_, ?_⟩
    · unfold peelRound
      exact List.Nodup.sublist List.filter_sublist List.nodup_range
    · intro a ha b hb hab
      subst hab
      exact (mem_peelRound.1 hb).2.1 ha
  · intro v hv
    rcases List.mem_append.1 hv with hv | hv
    · exact h.lt v hv
    · exact (mem_peelRound.1 hv).1
  · intro v hv w hw
    have hwd : w ∈ done := by
      rcases List.mem_append.1 hv with hv | hv
      · exact (h.before v hv w hw).1
      · exact (mem_peelRound.1 hv).2.2 w hw
    refine ⟨List.mem_append_left _ hwd, ?_⟩
    rw [List.idxOf_append, List.idxOf_append, if_pos hwd]
    split
    · exact (h.before v ‹_› w hw).2
    · have := List.idxOf_lt_length_of_mem hwd
      omega

theorem topoInv_peel {adj : List (List Nat)} (k : Nat) {done : List Nat} (h : TopoInv adj done) :
    TopoInv adj (peel adj k done) := by
  induction k generalizing done with
  | zero => exact h
  | succ k ih =>
    unfold peel
    simp only
    split
    · exact h
    · exact ih (topoInv_step h)

abbrev rank (order : List Nat) (v : Nat) : Nat := order.idxOf v

/-! ### `reach` (`graph.ShortestPaths`): closed under successors -/

/-- the fold of `addNew` (vertices) and of `addSeen` (module names) -/
theorem foldl_appendNew_spec {α : Type} [BEq α] [LawfulBEq α] (vis cand : List α) :
    ∃ ex, cand.foldl (fun acc w => if acc.contains w then acc else acc ++ [w]) vis = vis ++ ex ∧
      (∀ x ∈ ex, x ∈ cand ∧ x ∉ vis) ∧ ex.Nodup ∧ ∀ x ∈ cand, x ∈ vis ++ ex := by
  induction cand generalizing vis with
  | nil => exact ⟨[], (List.append_nil _).symm, nofun, List.nodup_nil, nofun⟩
  | cons c r ih =>
    rw [List.foldl_cons]
    by_cases hc : c ∈ vis
    · rw [if_pos (List.contains_iff_mem.2 hc)]
      obtain ⟨ex, h1, h2, h3, h4⟩ := ih vis
      refine ⟨ex, h1, fun x hx => ⟨List.mem_cons_of_mem _ (h2 x hx).1, (h2 x hx).2⟩, h3, ?_⟩
      intro x hx
      rcases List.mem_cons.1 hx with rfl | hx
      · exact List.mem_append_left _ hc
      · exact h4 x hx
    · rw [if_neg (mt List.contains_iff_mem.1 hc)]
      obtain ⟨ex, h1, h2, h3, h4⟩ := ih (vis ++ [c])
      have hcm : c ∈ vis ++ [c] := List.mem_append_right _ List.mem_cons_self
      refine ⟨c :: ex, by rw [h1, List.append_assoc]; rfl, ?_, List.nodup_cons.2 ⟨fun hx => (h2 c hx).2 hcm, h3⟩, ?_⟩
      · intro x hx
        rcases List.mem_cons.1 hx with rfl | hx
        · exact ⟨List.mem_cons_self, hc⟩
        · exact ⟨List.mem_cons_of_mem _ (h2 x hx).1, fun hv => (h2 x hx).2 (List.mem_append_left _ hv)⟩
      · intro x hx
        rw [List.append_cons]
        rcases List.mem_cons.1 hx with rfl | hx
        · exact List.mem_append_left _ hcm
        · exact h4 x hx

/-- `Q`: any predicate that holds of the root and is inherited by successors -/
structure BfsInv (adj : List (List Nat)) (Q : Nat → Prop) (vis fr : List Nat) : Prop where
  nodup : vis.Nodup
  lt : ∀ x ∈ vis, x < adj.length
  fr_sub : ∀ x ∈ fr, x ∈ vis
  closed : ∀ u ∈ vis, u ∉ fr → ∀ w ∈ succs adj u, w ∈ vis
  q : ∀ u ∈ vis, Q u

structure ReachRes (adj : List (List Nat)) (Q : Nat → Prop) (v0 : Nat) (s : List Nat) : Prop where
  root : v0 ∈ s
  lt : ∀ x ∈ s, x < adj.length
  closed : ∀ u ∈ s, ∀ w ∈ succs adj u, w ∈ s
  q : ∀ u ∈ s, Q u

/-- every round but the last adds a vertex, so `adj.length < vis.length + fuel` is kept; with no fuel
left it contradicts `vis` being duplicate-free and in range -/
theorem bfs_spec {adj : List (List Nat)} (hadj : AdjOK adj) {Q : Nat → Prop}
    (hQ : ∀ u w, Q u → w ∈ succs adj u → Q w) (v0 : Nat) :
    ∀ (fuel : Nat) (vis fr : List Nat), BfsInv adj Q vis fr → v0 ∈ vis → adj.length < vis.length + fuel →
      ReachRes adj Q v0 (bfs adj fuel vis fr) := by
  intro fuel
  induction fuel with
  | zero =>
    intro vis fr inv _ hlen
    have := List.Nodup.length_le_of_subset inv.nodup fun x hx => List.mem_range.2 (inv.lt x hx)
    rw [List.length_range] at this
    omega
  | succ k ih =>
    intro vis fr inv hv0 hlen
    obtain ⟨ex, h1, h2, h3, h4⟩ := foldl_appendNew_spec vis (fr.flatMap (succs adj))
    have h1 : addNew vis (fr.flatMap (succs adj)) = vis ++ ex := h1
    have hfr : ∀ u ∈ fr, ∀ w ∈ succs adj u, w ∈ vis ++ ex :=
      fun u hu w hw => h4 w (List.mem_flatMap.2 ⟨u, hu, hw⟩)
    unfold bfs
    simp only [h1, List.drop_left]
    split
    · rename_i hemp
      rw [List.isEmpty_iff.1 hemp, List.append_nil] at hfr
      exact ⟨hv0, inv.lt, fun u hu w hw =>
        if h : u ∈ fr then hfr u h w hw else inv.closed u hu h w hw, inv.q⟩
    · rename_i hne
      refine ih (vis ++ ex) ex ⟨?_, ?_, fun x hx => List.mem_append_right _ hx, ?_, ?_⟩
        (List.mem_append_left _ hv0) ?_
      · exact List.nodup_append.2 ⟨inv.nodup, h3, fun a ha b hb hab => (h2 b hb).2 (hab ▸ ha)⟩
      · intro x hx
        rcases List.mem_append.1 hx with hx | hx
        · exact inv.lt x hx
        · obtain ⟨u, _, hw⟩ := List.mem_flatMap.1 (h2 x hx).1
          exact succs_lt hadj hw
      · intro u hu hnex w hw
        have hu := (List.mem_append.1 hu).resolve_right hnex
        exact if h : u ∈ fr then hfr u h w hw else List.mem_append_left _ (inv.closed u hu h w hw)
      · intro u hu
        rcases List.mem_append.1 hu with hu | hu
        · exact inv.q u hu
        · obtain ⟨p, hp, hw⟩ := List.mem_flatMap.1 (h2 u hu).1
          exact hQ p u (inv.q p (inv.fr_sub p hp)) hw
      · have := List.length_pos_iff.2 (mt List.isEmpty_iff.2 hne)
        rw [List.length_append]
        omega

theorem reach_spec {adj : List (List Nat)} (hadj : AdjOK adj) {Q : Nat → Prop}
    (hQ : ∀ u w, Q u → w ∈ succs adj u → Q w) {v0 : Nat} (hv0 : v0 < adj.length) (hq0 : Q v0) :
    ReachRes adj Q v0 (reach adj v0) := by
  unfold reach
  apply bfs_spec hadj hQ v0
  · refine ⟨by simp, fun x hx => ?_, by simp, fun u hu hnu => absurd hu hnu, fun u hu => ?_⟩
    · exact List.mem_singleton.1 hx ▸ hv0
    · exact List.mem_singleton.1 hu ▸ hq0
  · simp
  · simp

/-! ### what `newModuleGraph ms = ok g` establishes -/

structure GraphOK (ms : List Module) (g : MGraph) : Prop where
  hms : g.ms = ms
  hadj : g.adj = ms.map (edgesOf ms)
  hord : g.order = topoOrder g.adj
  hlen : g.order.length = ms.length

theorem newModuleGraph_spec (ms : List Module) : Ensures (newModuleGraph ms) (GraphOK ms) := by
  unfold newModuleGraph
  have hall : (ms.map (edgesOf ms)).all (fun l => l.all (· < ms.length)) = true :=
    List.all_eq_true.2 fun l hl => List.all_eq_true.2 fun w hw => by
      obtain ⟨m, _, rfl⟩ := List.mem_map.1 hl
      exact decide_eq_true (edgesOf_lt ms m w hw)
  simp only [hall, Bool.not_true, Bool.false_eq_true, if_false]
  exact .ite (fun h => ⟨rfl, rfl, rfl, by simpa using h⟩) fun _ => ensures_error

theorem graphOK_of_ok {ms : List Module} {g : MGraph} (h : newModuleGraph ms = .ok g) : GraphOK ms g :=
  (newModuleGraph_spec ms).of_ok h

theorem GraphOK.adj_len {ms : List Module} {g : MGraph} (h : GraphOK ms g) : g.adj.length = ms.length := by
  rw [h.hadj]; simp

theorem GraphOK.adjOK {ms : List Module} {g : MGraph} (h : GraphOK ms g) : AdjOK g.adj := by
  rw [h.hadj]
  intro l hl w hw
  obtain ⟨m, _, rfl⟩ := List.mem_map.1 hl
  simpa using edgesOf_lt ms m w hw

theorem GraphOK.topoInv {ms : List Module} {g : MGraph} (h : GraphOK ms g) : TopoInv g.adj g.order :=
  h.hord ▸ topoInv_peel _ ⟨List.nodup_nil, nofun, nofun⟩

theorem GraphOK.mem_order {ms : List Module} {g : MGraph} (h : GraphOK ms g) {v : Nat} (hv : v < ms.length) :
    v ∈ g.order :=
  subset_of_nodup_of_length_le h.topoInv.nodup
    (fun x hx => List.mem_range.2 (h.adj_len ▸ h.topoInv.lt x hx)) (by simp [h.hlen]) v (List.mem_range.2 hv)

theorem GraphOK.rank_succ {ms : List Module} {g : MGraph} (h : GraphOK ms g) {v w : Nat}
    (hv : v < ms.length) (hw : w ∈ succs g.adj v) : rank g.order w < rank g.order v :=
  (h.topoInv.before v (h.mem_order hv) w hw).2

theorem GraphOK.rank_lt {ms : List Module} {g : MGraph} (h : GraphOK ms g) {v : Nat}
    (hv : v < ms.length) : rank g.order v < ms.length :=
  h.hlen ▸ List.idxOf_lt_length_of_mem (h.mem_order hv)

theorem GraphOK.reach {ms : List Module} {g : MGraph} (h : GraphOK ms g) {v : Nat} (hv : v < ms.length) :
    ReachRes g.adj (fun u => u < ms.length ∧ (u = v ∨ rank g.order u < rank g.order v)) v (reach g.adj v) := by
  refine reach_spec h.adjOK ?_ (h.adj_len ▸ hv) ⟨hv, Or.inl rfl⟩
  intro u w ⟨hu, hq⟩ hw
  refine ⟨h.adj_len ▸ succs_lt h.adjOK hw, Or.inr ?_⟩
  have := h.rank_succ hu hw
  rcases hq with hq | hq
  · exact hq ▸ this
  · omega

/-! ### modulesAt never dereferences nil for indexes in range -/

theorem modulesAt_spec (ms : List Module) (idxs : List Nat) (h : ∀ i ∈ idxs, i < ms.length) :
    Ensures (modulesAt ms idxs) fun l =>
      (∀ m ∈ l, ∃ i ∈ idxs, ms[i]? = some m) ∧ (∀ i ∈ idxs, ∃ m ∈ l, ms[i]? = some m) := by
  induction idxs with
  | nil => simp [modulesAt]
  | cons i r ih =>
    have hlt : i < ms.length := h i List.mem_cons_self
    have hi : ms[i]? = some ms[i] := List.getElem?_eq_getElem hlt
    unfold modulesAt
    rw [hi]
    refine (ih fun j hj => h j (List.mem_cons_of_mem _ hj)).bind fun l ⟨h2, h3⟩ => ?_
    simp only [ensures_ok, List.mem_cons, forall_eq_or_imp, exists_eq_or_imp]
    exact ⟨⟨Or.inl hi, fun m hm => Or.inr (h2 m hm)⟩, ⟨Or.inl hi, fun j hj => Or.inr (h3 j hj)⟩⟩

theorem modulesAt_filter (ms : List Module) (p : Nat → Bool) :
    Ensures (modulesAt ms ((List.range ms.length).filter p)) fun l =>
      (∀ m ∈ l, ∃ i, p i = true ∧ ms[i]? = some m) ∧
      (∀ i, i < ms.length → p i = true → ∃ m ∈ l, ms[i]? = some m) :=
  (modulesAt_spec ms _ fun _ hi => List.mem_range.1 (List.mem_filter.1 hi).1).mono fun _ ⟨h1, h2⟩ =>
    ⟨fun m hm => let ⟨i, hi, him⟩ := h1 m hm; ⟨i, (List.mem_filter.1 hi).2, him⟩,
     fun i hi hp => h2 i (List.mem_filter.2 ⟨List.mem_range.2 hi, hp⟩)⟩

theorem ancestorsOf_spec (g : MGraph) (name : Str) :
    Ensures (g.ancestorsOf name) fun l => ∀ a ∈ l, ∃ v w,
      lookupIdx name g.ms = some v ∧ w ≠ v ∧ w ∈ reach g.adj v ∧ g.ms[w]? = some a := by
  unfold MGraph.ancestorsOf
  cases hl : lookupIdx name g.ms with
  | none => exact ensures_error
  | some v =>
    refine (modulesAt_filter g.ms _).mono fun l h a ha => ?_
    obtain ⟨w, hw, hwa⟩ := h.1 a ha
    have hw : w ≠ v ∧ w ∈ reach g.adj v := by simpa using hw
    exact ⟨v, w, rfl, hw.1, hw.2, hwa⟩

theorem ancestorsOf_good (g : MGraph) (name : Str) : Good (g.ancestorsOf name) :=
  (ancestorsOf_spec g name).mono fun _ _ => trivial

theorem dedupByName_spec (l acc : List Module) (hacc : (acc.map (·.name)).Nodup) :
    ((dedupByName l acc).map (·.name)).Nodup ∧ (∀ m ∈ dedupByName l acc, m ∈ acc ++ l) ∧
    (∀ m ∈ acc ++ l, ∃ m' ∈ dedupByName l acc, m'.name = m.name) := by
  induction l generalizing acc with
  | nil => exact ⟨hacc, fun m hm => by simpa [dedupByName] using hm, fun m hm => ⟨m, by simpa [dedupByName] using hm, rfl⟩⟩
  | cons a r ih =>
    unfold dedupByName
    split
    · rename_i hany
      obtain ⟨x, hx, hxn⟩ := List.any_eq_true.1 hany
      obtain ⟨h1, h2, h3⟩ := ih acc hacc
      refine ⟨h1, fun m hm => ?_, fun m hm => ?_⟩
      · exact List.mem_append.2 ((List.mem_append.1 (h2 m hm)).imp_right (List.mem_cons_of_mem _))
      · rcases List.mem_append.1 hm with hm | hm
        · exact h3 m (List.mem_append_left _ hm)
        · rcases List.mem_cons.1 hm with rfl | hm
          · obtain ⟨m', hm', hn'⟩ := h3 x (List.mem_append_left _ hx)
            exact ⟨m', hm', by rw [hn']; simpa using hxn⟩
          · exact h3 m (List.mem_append_right _ hm)
    · rename_i hany
      rw [List.append_cons acc a r]
      refine ih (acc ++ [a]) ?_
      rw [List.map_append]
      refine List.nodup_append.2 ⟨hacc, by simp, fun x hx y hy hxy => hany ?_⟩
      obtain ⟨b, hb, hbx⟩ := List.mem_map.1 hx
      rw [List.map_singleton, List.mem_singleton] at hy
      exact List.any_eq_true.2 ⟨b, hb, by simp [hbx, hxy, hy]⟩

end SV.Val
