import Lemmas.ValidateStages
/-!
For C17: the recursion of `hashModule` is bounded by the rank of the module in
the (acyclic) graph; the set of used modules satisfies `UsedOK`.
-/
namespace SV.Val

/-- `hne`: `NewModuleGraph` skips inputs with an empty name -/
theorem dep_edge {ms : List Module} {m : Module} {nm : Str} {j : Nat} (hnm : nm ∈ depNames m)
    (hne : nm ≠ []) (hj : lookupIdx nm ms = some j) : j ∈ edgesOf ms m := by
  rcases mem_depNames.1 hnm with h | ⟨md, h⟩ | ⟨bf, hbf, rfl⟩
  · exact mem_edgesOf.2 (Or.inl ⟨_, h, by simp [inputEdge, hne, hj]⟩)
  · exact mem_edgesOf.2 (Or.inl ⟨_, h, by simp [inputEdge, hne, hj]⟩)
  · exact mem_edgesOf.2 (Or.inr ⟨bf, hbf, hj⟩)

theorem module_spec {ms : List Module} {g : MGraph} (h : GraphOK ms g) (name : Str) :
    Ensures (g.module name) fun fm => ∃ j, lookupIdx name ms = some j ∧ ms[j]? = some fm := by
  unfold MGraph.module
  rw [h.hms]
  cases hl : lookupIdx name ms with
  | none => exact ensures_error
  | some j =>
    obtain ⟨fm, hfm, _⟩ := lookupIdx_some hl
    simp only [hfm]
    exact ⟨j, rfl, hfm⟩

theorem GraphOK.ancestors_rank_lt {ms : List Module} {g : MGraph} (hg : GraphOK ms g)
    (hnd : (ms.map (·.name)).Nodup) {m : Module} {v : Nat} (hv : ms[v]? = some m) :
    Ensures (g.ancestorsOf m.name) fun l =>
      ∀ a ∈ l, ∃ w : Nat, ms[w]? = some a ∧ rank g.order w < rank g.order v := by
  refine (ancestorsOf_spec g m.name).mono fun l h a ha => ?_
  obtain ⟨v', w, hv', hne, hw, hwa⟩ := h a ha
  rw [hg.hms, lookupIdx_of_getElem hnd hv] at hv'
  cases hv'
  exact ⟨w, hg.hms ▸ hwa,
    ((hg.reach (lt_length_of_getElem? hv)).q w hw).2.resolve_left hne⟩

/-- the recursive calls (block filter module, ancestors) are on modules of smaller rank -/
theorem hashBody_good {ms : List Module} {g : MGraph} (hg : GraphOK ms g)
    (hnd : (ms.map (·.name)).Nodup) (mods : Modules)
    (rec : List Str → Module → Outcome (List Str)) {m : Module} {v : Nat} (hv : ms[v]? = some m)
    (hrec : ∀ (w : Nat) (a : Module), ms[w]? = some a → rank g.order w < rank g.order v → ∀ c, Good (rec c a))
    (cache : List Str) : Good (hashBody mods g rec cache m) := by
  have hA := hg.ancestors_rank_lt hnd hv
  unfold hashBody
  -- `hashModule` discards the error of `AncestorsOf`: an error counts as no ancestors
  generalize g.ancestorsOf m.name = anc at hA
  refine .ite (fun _ => trivial) fun _ => .guard fun _ => .guard fun _ => .guard fun _ => ?_
  refine Ensures.bind (P := fun _ => True) ?_ fun c1 _ => ?_
  · cases hbf : m.blockFilter with
    | none => trivial
    | some bf =>
      refine (module_spec hg bf.module).bind fun fm ⟨j, hj, hfm⟩ => ?_
      refine (hrec j fm hfm (hg.rank_succ (lt_length_of_getElem? hv) ?_) _).bind fun c _ =>
        .ite (fun _ => trivial) fun _ => trivial
      rw [hg.hadj, succs_map hv]
      exact mem_edgesOf.2 (Or.inr ⟨bf, hbf, hj⟩)
  · refine Ensures.bind (P := fun l => ∀ a ∈ l, ∃ w : Nat, ms[w]? = some a ∧ rank g.order w < rank g.order v)
      ?_ fun l hl => ?_
    · cases anc with
      | ok l => exact hA
      | error => exact ensures_ok.2 nofun
      | panic => exact hA
      | hang => exact hA
    · refine (foldOutcome_ensures (I := fun _ => True) l (fun a ha c _ => ?_) c1 trivial).bind
        fun _ _ => trivial
      obtain ⟨w, hwa, hlt⟩ := hl a ha
      exact hrec w a hwa hlt c

theorem hashModule_good {ms : List Module} {g : MGraph} (hg : GraphOK ms g)
    (hnd : (ms.map (·.name)).Nodup) (mods : Modules) :
    ∀ (fuel : Nat) (m : Module) (v : Nat), ms[v]? = some m → rank g.order v < fuel →
      ∀ cache, Good (hashModule mods g fuel cache m) := by
  intro fuel
  induction fuel with
  | zero => intro m v _ h; omega
  | succ k ih =>
    intro m v hv hlt cache
    unfold hashModule
    exact hashBody_good hg hnd mods _ hv (fun w a hwa hw c => ih a w hwa (by omega) c) cache

theorem hashModules_good {ms : List Module} {g : MGraph} (hg : GraphOK ms g)
    (hnd : (ms.map (·.name)).Nodup) (mods : Modules) (used : List Module)
    (hused : ∀ m ∈ used, ∃ v : Nat, ms[v]? = some m) : Good (hashModules mods g used) := by
  unfold hashModules
  refine foldOutcome_ensures (I := fun _ => True) used (fun m hm c _ => ?_) [] trivial
  obtain ⟨v, hv⟩ := hused m hm
  apply hashModule_good hg hnd mods (hashFuel g) m v hv
  have := hg.rank_lt (lt_length_of_getElem? hv)
  unfold hashFuel
  rw [hg.hms]
  omega

/-- established by `validateModules_spec` -/
structure ModsOK (ms : List Module) : Prop where
  nodup : (ms.map (·.name)).Nodup
  nameNe : ∀ m ∈ ms, m.name ≠ []
  kinds : ∀ m ∈ ms, m.kind ≠ none
  present : ∀ m ∈ ms, ∀ i ∈ m.inputs, i ≠ none
  refs : ∀ m ∈ ms, ∀ nm ∈ depNames m, ∃ m' ∈ ms, m'.name = nm
  count : ms.length ≤ 100
  inputCount : ∀ m ∈ ms, m.inputs.length ≤ 30

def nameRank (g : MGraph) (nm : Str) : Nat :=
  match lookupIdx nm g.ms with
  | some j => rank g.order j
  | none => 0

theorem modulesDownTo_spec {ms : List Module} {g : MGraph} (hg : GraphOK ms g) (hM : ModsOK ms)
    (out : Str) :
    Ensures (g.modulesDownTo out) fun used => UsedOK used (nameRank g) ∧
      (∀ m ∈ used, ∃ v : Nat, ms[v]? = some m) ∧ (∃ m ∈ used, m.name = out) ∧
      used.length ≤ ms.length := by
  unfold MGraph.modulesDownTo
  refine .guard fun _ => ?_
  rw [hg.hms]
  cases hl : lookupIdx out ms with
  | none => exact ensures_error
  | some v0 =>
    have hR := hg.reach (lookupIdx_lt hl)
    refine (modulesAt_filter ms _).bind fun l ⟨hl1, hl2⟩ => ensures_ok.2 ?_
    obtain ⟨hd1, hd2, hd3⟩ := dedupByName_spec l [] List.nodup_nil
    have hmem : ∀ m ∈ dedupByName l [], ∃ w : Nat, w ∈ reach g.adj v0 ∧ ms[w]? = some m := by
      intro m hm
      obtain ⟨w, hw, hwm⟩ := hl1 m (hd2 m hm)
      exact ⟨w, by simpa using hw, hwm⟩
    -- every reachable index has its module (by name) among the result
    have hcover : ∀ w, w ∈ reach g.adj v0 →
        ∃ m a, ms[w]? = some m ∧ a ∈ dedupByName l [] ∧ a.name = m.name := by
      intro w hw
      obtain ⟨m, hm, hwm⟩ := hl2 w (hg.adj_len ▸ hR.lt w hw) (by simpa using hw)
      obtain ⟨a, ha, han⟩ := hd3 m hm
      exact ⟨m, a, hwm, ha, han⟩
    -- a dependency of a result module is an edge, hence reachable, of lower rank, and covered
    have hdep : ∀ m ∈ dedupByName l [], ∀ nm ∈ depNames m,
        (∃ a ∈ dedupByName l [], a.name = nm) ∧ nameRank g nm < nameRank g m.name := by
      intro m hm nm hnm
      obtain ⟨w, hw, hwm⟩ := hmem m hm
      have hmms := List.mem_of_getElem? hwm
      obtain ⟨m', hm', hn'⟩ := hM.refs m hmms nm hnm
      obtain ⟨j, hj⟩ := exists_lookupIdx_of_name ⟨m', hm', hn'⟩
      have hjs : j ∈ succs g.adj w := by
        rw [hg.hadj, succs_map hwm]
        exact dep_edge hnm (hn' ▸ hM.nameNe m' hm') hj
      constructor
      · obtain ⟨mj, a, hmj, ha, han⟩ := hcover j (hR.closed w hw j hjs)
        obtain ⟨mj', hmj', hn'⟩ := lookupIdx_some hj
        rw [hmj] at hmj'; cases hmj'
        exact ⟨a, ha, han.trans hn'⟩
      · unfold nameRank
        rw [hg.hms, hj, lookupIdx_of_getElem hM.nodup hwm]
        exact hg.rank_succ (lt_length_of_getElem? hwm) hjs
    refine ⟨⟨hd1, ?_, fun m hm nm hnm => (hdep m hm nm hnm).1, fun m hm nm hnm => (hdep m hm nm hnm).2⟩,
      fun m hm => let ⟨w, _, hwm⟩ := hmem m hm; ⟨w, hwm⟩, ?_, ?_⟩
    · intro m hm
      obtain ⟨w, _, hwm⟩ := hmem m hm
      exact hM.present m (List.mem_of_getElem? hwm)
    · obtain ⟨m, a, hm, ha, han⟩ := hcover v0 hR.root
      obtain ⟨m', hm', hn'⟩ := lookupIdx_some hl
      rw [hm] at hm'; cases hm'
      exact ⟨a, ha, han.trans hn'⟩
    · -- distinct names, all of them names of modules of `ms`
      have h1 := List.Nodup.length_le_of_subset hd1 fun x hx => by
        obtain ⟨a, ha, hax⟩ := List.mem_map.1 hx
        obtain ⟨w, _, hwm⟩ := hmem a ha
        exact List.mem_map.2 ⟨a, List.mem_of_getElem? hwm, hax⟩
      simpa using h1

end SV.Val
