import Lemmas.Wire
/-!
Lemmas for C18 about the output-cache messages (`Item`, `Array`, nested `Timestamp`) of `Model/Wire.lean`: the fast
decoder on encoder output.  `Consumes.itemBody` is the layout of an item body (five fields, each left out at its zero
value), for any loop; `vtItem_num` and `vtItem_len` are the fields of `vtItemLoop`.
-/
namespace SV.Wire

theorem nanosToU64_lt {n : Nat} (h : n < two32) : nanosToU64 n < two64 := by
  unfold nanosToU64 two64 two32 two31 at *
  split <;> omega

theorem nanosToU64_mod {n : Nat} (h : n < two32) : nanosToU64 n % two32 = n := by
  unfold nanosToU64 two64 two32 two31 at *
  split <;> omega

theorem pwVarint_08 (r : Bytes) : pwVarint ((0x08 : UInt8) :: r) = .ok (8, r) := pwVarint_byte 0x08 r (by decide)
theorem pwVarint_10 (r : Bytes) : pwVarint ((0x10 : UInt8) :: r) = .ok (16, r) := pwVarint_byte 0x10 r (by decide)
theorem pwVarint_1a (r : Bytes) : pwVarint ((0x1a : UInt8) :: r) = .ok (26, r) := pwVarint_byte 0x1a r (by decide)
theorem pwVarint_22 (r : Bytes) : pwVarint ((0x22 : UInt8) :: r) = .ok (34, r) := pwVarint_byte 0x22 r (by decide)
theorem pwVarint_2a (r : Bytes) : pwVarint ((0x2a : UInt8) :: r) = .ok (42, r) := pwVarint_byte 0x2a r (by decide)

/-- two fields, each one tag byte and a varint of at most ten bytes -/
theorem encTimestamp_length_le (t : Timestamp) (hs : t.secs < two64) (hn : t.nanos < two32) :
    (encTimestamp t).length ≤ 22 := by
  have h₁ := encVarint_length_le hs
  have h₂ := encVarint_length_le (nanosToU64_lt hn)
  unfold encTimestamp
  simp +decide only [encVarintField, encTag_byte, List.length_append, List.length_singleton, apply_ite List.length,
    List.length_nil]
  split <;> split <;> omega

/-- `proto.Unmarshal` reads back `proto.Marshal` of a Timestamp -/
theorem specDecodeTimestamp_enc (t : Timestamp) (hs : t.secs < two64) (hn : t.nanos < two32) :
    specDecodeTimestampInto {} (encTimestamp t) = .ok t := by
  have hlen := encTimestamp_length_le t hs hn
  obtain ⟨secs, nanos⟩ := t
  have h₁ : Consumes (pwMsgLoop specTsField) two64 (if secs ≠ 0 then encVarintField 1 secs else []) {} ⟨secs, 0⟩ :=
    Consumes.ite
      (fun _ => by
        rw [encVarintField, encTag_byte 1 0 (by decide)]
        exact Consumes.pwField _ 0x08 1 0 _ _ _ rfl (by decide) fun rest _ => by
          simp only [specTsField, pwVarint_enc hs]; rfl)
      (fun h => by rw [Decidable.not_not.mp h])
  have h₂ : Consumes (pwMsgLoop specTsField) two64 (if nanos ≠ 0 then encVarintField 2 (nanosToU64 nanos) else [])
      ⟨secs, 0⟩ ⟨secs, nanos⟩ :=
    Consumes.ite
      (fun _ => by
        rw [encVarintField, encTag_byte 2 0 (by decide)]
        exact Consumes.pwField _ 0x10 2 0 _ _ _ rfl (by decide) fun rest _ => by
          simp only [specTsField, pwVarint_enc (nanosToU64_lt hn), nanosToU64_mod hn]; rfl)
      (fun h => by rw [Decidable.not_not.mp h])
  exact (h₁.append h₂).run (Nat.lt_of_le_of_lt hlen (by decide)) (pwMsgLoop_nil _ · _)

theorem vtVarint_08 (r : Bytes) : vtVarint ((0x08 : UInt8) :: r) = .ok (8, r) := vtVarint_byte 0x08 r (by decide)
theorem vtVarint_1a (r : Bytes) : vtVarint ((0x1a : UInt8) :: r) = .ok (26, r) := vtVarint_byte 0x1a r (by decide)
theorem vtVarint_22 (r : Bytes) : vtVarint ((0x22 : UInt8) :: r) = .ok (34, r) := vtVarint_byte 0x22 r (by decide)
theorem vtVarint_2a (r : Bytes) : vtVarint ((0x2a : UInt8) :: r) = .ok (42, r) := vtVarint_byte 0x2a r (by decide)

theorem vtItemLoop_nil (l n : Nat) (it : Item) : vtItemLoop l n [] it = .ok it := by
  cases n <;> rfl

theorem vtItem_num (l n : Nat) (it0 : Item) (hn : n < two64) :
    Consumes (vtItemLoop l) two63 ([0x08] ++ encVarint n) it0 { it0 with blockNum := n } := by
  refine Consumes.step (Nat.succ_pos _) fun f rest _ _ => ?_
  rw [List.append_assoc, List.singleton_append, vtItemLoop, if_neg (List.cons_ne_nil _ _)]
  simp only [vtVarint_08]
  rw [if_neg (by decide), if_neg (by decide), if_pos (by decide), if_neg (by decide)]
  simp only [vtVarint_enc hn]

theorem vtItem_len (l : Nat) (hl : l < two63) (tag : UInt8) (p : Bytes) (it0 it' : Item)
    (h : tag = 0x12 ∧ it' = { it0 with blockId := p } ∨ tag = 0x1a ∧ it' = { it0 with payload := p } ∨
      tag = 0x2a ∧ it' = { it0 with cursor := p } ∨
      tag = 0x22 ∧ ∃ t, specDecodeTimestampInto {} p = .ok t ∧ it' = { it0 with timestamp := some t }) :
    Consumes (vtItemLoop l) two63 ([tag] ++ encVarint p.length ++ p) it0 it' := by
  refine Consumes.step (by simp) fun f rest hlen hB => ?_
  simp only [List.append_assoc, List.cons_append, List.length_cons, List.length_append] at hlen ⊢
  obtain ⟨hv, hc⟩ := vtLen_enc hl p rest (by omega)
  have ht : tag.toNat < 128 := by
    rcases h with ⟨rfl, _⟩ | ⟨rfl, _⟩ | ⟨rfl, _⟩ | ⟨rfl, _⟩ <;> decide
  rw [vtItemLoop, if_neg (List.cons_ne_nil _ _)]
  simp only [vtVarint_byte tag _ ht, List.nil_append, hv, hc, List.take_left, List.drop_left]
  rcases h with ⟨rfl, rfl⟩ | ⟨rfl, rfl⟩ | ⟨rfl, rfl⟩ | ⟨rfl, t, ht, rfl⟩
  · rfl
  · rfl
  · rfl
  · simp only [ht]; rfl

/-- `Item.MarshalToSizedBufferVT`'s layout: five fields in order, each left out at its zero value (the timestamp: when
nil).  `L` is any loop that gets across each field that is present. -/
theorem Consumes.itemBody {ρ : Type} {L : Nat → Bytes → Item → ρ} {B : Nat} (num : Nat) (id payload : Bytes)
    (ts : Option Timestamp) (cursor : Bytes)
    (h₁ : Consumes L B ([0x08] ++ encVarint num) {} ⟨num, [], [], none, []⟩)
    (h₂ : Consumes L B ([0x12] ++ encVarint id.length ++ id) ⟨num, [], [], none, []⟩ ⟨num, id, [], none, []⟩)
    (h₃ : Consumes L B ([0x1a] ++ encVarint payload.length ++ payload) ⟨num, id, [], none, []⟩
      ⟨num, id, payload, none, []⟩)
    (h₄ : ∀ t, ts = some t → Consumes L B ([0x22] ++ encVarint (encTimestamp t).length ++ encTimestamp t)
      ⟨num, id, payload, none, []⟩ ⟨num, id, payload, some t, []⟩)
    (h₅ : Consumes L B ([0x2a] ++ encVarint cursor.length ++ cursor) ⟨num, id, payload, ts, []⟩
      ⟨num, id, payload, ts, cursor⟩) :
    Consumes L B (vtEncItemBody ⟨num, id, payload, ts, cursor⟩) {} ⟨num, id, payload, ts, cursor⟩ := by
  have nil_of {p : Bytes} (h : ¬ p.length > 0) : p = [] := List.eq_nil_of_length_eq_zero (by omega)
  refine ((((Consumes.ite (fun _ => h₁) fun h => ?_).append (.ite (fun _ => h₂) fun h => ?_)).append
    (.ite (fun _ => h₃) fun h => ?_)).append ?_).append (.ite (fun _ => h₅) fun h => ?_)
  · rw [show num = 0 from Decidable.not_not.mp h]
  · rw [show id = [] from nil_of h]
  · rw [show payload = [] from nil_of h]
  · cases ts with
    | none => exact .nil _
    | some t => exact h₄ t rfl
  · rw [show cursor = [] from nil_of h]

/-- what the Go types guarantee: `BlockNum uint64`, `Seconds int64`, `Nanos int32` -/
def Item.WellTyped (it : Item) : Prop :=
  it.blockNum < two64 ∧ ∀ x, it.timestamp = some x → x.secs < two64 ∧ x.nanos < two32

/-- `Item.UnmarshalVTNoAlloc` reads back what `Item.MarshalVT` wrote -/
theorem unmarshalItemVT_enc (it : Item) (hwt : it.WellTyped) (hlen : (vtEncItemBody it).length < two63) :
    unmarshalItemVT (vtEncItemBody it) = .ok it := by
  obtain ⟨hnum, hts⟩ := hwt
  obtain ⟨num, id, payload, ts, cursor⟩ := it
  refine (Consumes.itemBody num id payload ts cursor (vtItem_num _ num {} hnum)
    (vtItem_len _ hlen _ id _ _ (.inl ⟨rfl, rfl⟩))
    (vtItem_len _ hlen _ payload _ _ (.inr (.inl ⟨rfl, rfl⟩)))
    (fun t ht => vtItem_len _ hlen _ _ _ _ (.inr (.inr (.inr
      ⟨rfl, t, specDecodeTimestamp_enc t (hts t ht).1 (hts t ht).2, rfl⟩))))
    (vtItem_len _ hlen _ cursor _ _ (.inr (.inr (.inl ⟨rfl, rfl⟩))))).run hlen (vtItemLoop_nil _ · _)

theorem vtEncItem_length (it : Item) :
    (vtEncItem it).length = 1 + (encVarint (vtEncItemBody it).length).length + (vtEncItemBody it).length := by
  unfold vtEncItem
  simp only [List.length_append, List.length_cons, List.length_nil]

theorem vtArrayLoop_nil (l n : Nat) (items : List Item) : vtArrayLoop l n [] items = .ok items := by
  cases n <;> rfl

theorem vtArrayLoop_item (l : Nat) (hl : l < two63) (it : Item) (items : List Item) (hwt : it.WellTyped) :
    Consumes (vtArrayLoop l) two63 (vtEncItem it) items (items ++ [it]) := by
  refine Consumes.step (by rw [vtEncItem_length]; omega) fun f rest hlen hB => ?_
  rw [List.length_append, vtEncItem_length] at hlen
  obtain ⟨hv, hc⟩ := vtLen_enc hl (vtEncItemBody it) rest (by omega)
  unfold vtEncItem
  simp only [List.append_assoc, List.cons_append, List.nil_append]
  rw [vtArrayLoop, if_neg (List.cons_ne_nil _ _)]
  simp only [vtVarint_0a, hv]
  rw [if_neg (by decide), if_neg (by decide), if_pos (by decide), if_neg (by decide), hc]
  simp only [List.take_left, List.drop_left, unmarshalItemVT_enc it hwt (by omega)]

/-- `Array.UnmarshalVTNoAlloc` reads back `Array.MarshalVT` -/
theorem unmarshalArrayVT_enc (items : List Item) (hwt : ∀ it ∈ items, it.WellTyped)
    (hlen : (vtEncArray items).length < two63) : unmarshalArrayVT (vtEncArray items) = .ok items :=
  (Consumes.flatMap vtEncItem (fun done => done) items fun a x b hx =>
    vtArrayLoop_item _ hlen x a (hwt x (by rw [hx]; simp))).run hlen (vtArrayLoop_nil _ · _)

theorem itemInsert_new (m : ItemMap) (k : Bytes) (v : Item) (h : k ∉ m.map (·.1)) :
    itemInsert m k v = m ++ [(k, v)] := by
  fun_induction itemInsert m k v with
  | case1 => rfl
  | case2 => exact absurd (by simp) h
  | case3 _ _ _ _ _ _ ih => rw [ih fun hc => h (List.mem_cons_of_mem _ hc)]; rfl

theorem foldl_itemInsert (es : ItemMap) : ∀ acc : ItemMap, (acc.map (·.1) ++ es.map (·.1)).Nodup →
    (∀ e ∈ es, e.2.blockId = e.1) →
    (es.map (·.2)).foldl (fun m it => itemInsert m it.blockId it) acc = acc ++ es := by
  induction es with
  | nil => intro acc _ _; simp
  | cons e t ih =>
    intro acc h hk
    have hnot : e.1 ∉ acc.map (·.1) := by
      intro hc
      rw [List.nodup_append] at h
      exact h.2.2 _ hc _ (by simp) rfl
    rw [List.map_cons, List.foldl_cons, hk e (by simp), itemInsert_new acc e.1 e.2 hnot, ih]
    · simp
    · simpa [List.map_append, List.append_assoc] using h
    · exact fun x hx => hk x (by simp [hx])

/-- `Map.UnmarshalFast` reads back `Map.MarshalFast`: the map is keyed by block id (`File.SetItem`). -/
theorem unmarshalFast_enc (m : ItemMap) (hnd : (m.map (·.1)).Nodup) (hkey : ∀ e ∈ m, e.2.blockId = e.1)
    (hwt : ∀ e ∈ m, e.2.WellTyped) (hlen : (vtEncArray (m.map (·.2))).length < two63) :
    unmarshalFast (vtEncArray (m.map (·.2))) = .ok m := by
  unfold unmarshalFast
  rw [unmarshalArrayVT_enc _ (List.forall_mem_map.2 hwt) hlen]
  simp only
  rw [foldl_itemInsert m [] (by simpa using hnd) hkey]
  simp

end SV.Wire
