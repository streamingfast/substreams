import Lemmas.WireItems
/-!
Lemmas for C18: the specification (protobuf) decoder on the output-cache encoder's bytes (`specDecodeItem_enc`
supplies `Consumes.itemBody` with the five field lemmas of the message loop), equality of the fast and the
specification encoder, exactness of `SizeVT` (field by field: `length_optLen`, `length_optNum`).
-/
namespace SV.Wire

/-- `proto.Unmarshal` into an `Item` reads what `Item.MarshalVT` wrote (string fields must be UTF-8) -/
theorem specDecodeItem_enc (it : Item) (hwt : it.WellTyped) (hlen : (vtEncItemBody it).length < two64)
    (hid : validUTF8 it.blockId = true) (hcur : validUTF8 it.cursor = true) :
    specDecodeItem (vtEncItemBody it) = .ok it := by
  obtain ⟨num, id, payload, ts, cursor⟩ := it
  refine (Consumes.itemBody num id payload ts cursor
    (Consumes.pwField _ 0x08 1 0 (encVarint num) _ _ rfl (by decide)
      fun rest _ => by simp only [specItemField, pwVarint_enc hwt.1]; rfl)
    (Consumes.pwLen _ 0x12 2 id _ _ _ rfl (by decide) (fun _ => rfl) (by simp only [pwString, hid]; rfl))
    (Consumes.pwLen _ 0x1a 3 payload _ _ _ rfl (by decide) (fun _ => rfl) (by rfl))
    (fun t ht => Consumes.pwLen _ 0x22 4 (encTimestamp t) _ _ _ rfl (by decide) (fun _ => rfl)
      (by simp only [Option.getD_none, specDecodeTimestamp_enc t (hwt.2 t ht).1 (hwt.2 t ht).2]; rfl))
    (Consumes.pwLen _ 0x2a 5 cursor _ _ _ rfl (by decide) (fun _ => rfl)
      (by simp only [pwString, hcur]; rfl))).run hlen (pwMsgLoop_nil _ · _)

theorem specArray_item (it : Item) (items : List Item)
    (hwt : it.WellTyped) (hlen : (vtEncItem it).length < two64)
    (hid : validUTF8 it.blockId = true) (hcur : validUTF8 it.cursor = true) :
    Consumes (pwMsgLoop specArrayField) two64 (vtEncItem it) items (items ++ [it]) := by
  rw [vtEncItem_length] at hlen
  exact Consumes.pwLen _ 0x0a 1 (vtEncItemBody it) _ _ _ rfl (by decide) (fun _ => rfl)
    (by simp only [specDecodeItem_enc it hwt (by omega) hid hcur]; rfl)

/-- `proto.Unmarshal` into an `Array` reads what `Array.MarshalVT` (hence `Map.MarshalFast`) wrote -/
theorem specDecodeArray_enc (items : List Item)
    (h : ∀ it ∈ items, it.WellTyped ∧ validUTF8 it.blockId = true ∧ validUTF8 it.cursor = true)
    (hlen : (vtEncArray items).length < two64) : specDecodeArray (vtEncArray items) = .ok items :=
  (Consumes.flatMap vtEncItem (fun done => done) items fun a x b hx => by
    have hx' := h x (by rw [hx]; simp)
    have hl : (vtEncItem x).length ≤ (vtEncArray items).length := by
      rw [vtEncArray, hx, List.flatMap_append, List.flatMap_cons]; simp only [List.length_append]; omega
    exact specArray_item x a hx'.1 (by omega) hx'.2.1 hx'.2.2).run hlen (pwMsgLoop_nil _ · _)

theorem specEncItemBody_eq (it : Item) : specEncItemBody it = vtEncItemBody it := by
  unfold specEncItemBody vtEncItemBody
  simp +decide only [encLenField, encVarintField, encTag_byte, List.ne_nil_iff_length_pos, List.cons_append,
    List.nil_append, List.append_assoc]
  rfl

theorem specEncArrayBytes_eq (items : List Item) : specEncArrayBytes items = vtEncArray items := by
  unfold specEncArrayBytes vtEncArray
  congr 1
  funext it
  simp +decide only [encLenField, encTag_byte, specEncItemBody_eq, vtEncItem, List.cons_append, List.nil_append]
  rfl

theorem specEncArray_ok {items : List Item} {bs : Bytes} (h : specEncArray items = .ok bs) :
    bs = vtEncArray items := by
  unfold specEncArray at h
  split at h
  · rw [← EncResult.ok.inj h, specEncArrayBytes_eq]
  · exact EncResult.noConfusion h

theorem sizeTimestamp_eq (t : Timestamp) : sizeTimestamp t = (encTimestamp t).length := by
  unfold sizeTimestamp encTimestamp
  simp +decide only [encVarintField, encTag_byte, sov_eq, List.length_append, List.length_singleton,
    apply_ite List.length, List.length_nil]

theorem length_optLen (tag : UInt8) (p : Bytes) :
    (if p.length > 0 then [tag] ++ encVarint p.length ++ p else []).length
      = if p.length > 0 then 1 + p.length + (encVarint p.length).length else 0 := by
  split
  · simp only [List.length_append, List.length_singleton]; omega
  · rfl

theorem length_optNum (n : Nat) :
    (if n ≠ 0 then [(0x08 : UInt8)] ++ encVarint n else []).length = if n ≠ 0 then 1 + (encVarint n).length else 0 := by
  split
  · rw [List.length_append, List.length_singleton]
  · rfl

theorem sizeVTItem_eq (it : Item) : sizeVTItem it = (vtEncItemBody it).length := by
  obtain ⟨num, id, payload, ts, cursor⟩ := it
  unfold sizeVTItem vtEncItemBody
  cases ts <;>
    simp only [List.length_append, length_optLen, length_optNum, List.length_singleton, List.length_nil,
      sizeTimestamp_eq, sov_eq] <;>
    omega

theorem sizeVTArray_eq (items : List Item) : sizeVTArray items = (vtEncArray items).length :=
  sum_map_eq_length_flatMap _ _ _ fun it => by
    simp only [vtEncItem_length, sizeVTItem_eq, sov_eq]; omega

theorem marshalArrayVT_eq (items : List Item) : marshalArrayVT items = .ok (vtEncArray items) := by
  simp only [marshalArrayVT]
  rw [if_pos (sizeVTArray_eq items)]

end SV.Wire
