/-
Model of /repo/block/segmenter.go, /repo/block/range.go (Split), /repo/block/ranges.go (Merged,
MergedBuckets).  Core Lean only; executable; total.

Numbers: Go `uint64` is modelled by `Nat` with truncated subtraction.  The two places where the Go
code can wrap (`exclusiveEndBlock - 1` at 0, `blockNum - 1` at 0) are excluded by the guards of the
theorems (`init < end_`, `0 < e`) and by the correspondence generator (documented in DESIGN §6/C13).
-/
namespace SV

structure Range where
  start : Nat
  stop  : Nat
deriving DecidableEq, Repr, Inhabited

namespace Range
def contains (r : Range) (b : Nat) : Bool := r.start ≤ b && b < r.stop
def size (r : Range) : Nat := r.stop - r.start
end Range

structure Segmenter where
  interval : Nat
  init     : Nat
  end_     : Nat
deriving DecidableEq, Repr

namespace Segmenter

def firstIndex (s : Segmenter) : Nat := s.init / s.interval
def lastIndex (s : Segmenter) : Nat := (s.end_ - 1) / s.interval

/-- `Count()`; Go computes in `int`, so a last index below the first gives a non-positive count. -/
def count (s : Segmenter) : Int := (s.lastIndex : Int) - (s.firstIndex : Int) + 1

def firstRange (s : Segmenter) : Option Range :=
  if s.end_ ≠ 0 ∧ s.end_ < s.init then none
  else
    let floorLowerBound := s.init - s.init % s.interval
    let upperBound := floorLowerBound + s.interval
    some ⟨s.init, min upperBound s.end_⟩

def followingRange (s : Segmenter) (idx : Nat) : Option Range :=
  if idx > s.lastIndex then none
  else
    let baseBlock := idx * s.interval
    let upperBound := baseBlock + s.interval
    some ⟨baseBlock, min upperBound s.end_⟩

/-- `Range(idx)`; `none` is Go's `nil`. (Negative `idx` is `< first`, hence `nil`; the model takes `Nat`.) -/
def range? (s : Segmenter) (idx : Nat) : Option Range :=
  let first := s.firstIndex
  if idx < first then none
  else if idx = first then s.firstRange
  else s.followingRange idx

def indexForStartBlock (s : Segmenter) (b : Nat) : Nat := b / s.interval
def indexForEndBlock (s : Segmenter) (b : Nat) : Nat := (b - 1) / s.interval

/-- `EndsOnInterval`: `none` = Go panics (explicit panic past the last index, nil dereference below
the first index). -/
def endsOnInterval (s : Segmenter) (idx : Nat) : Option Bool :=
  if idx > s.lastIndex then none
  else match s.range? idx with
    | none => none
    | some r => some (r.stop % s.interval == 0)

end Segmenter

/-! ### Range.Split -/

/-- The `for` loop of `Range.Split`, with fuel.  State: current start, current end. -/
def splitLoop (stop chunk : Nat) : Nat → Nat → Nat → List Range
  | 0, cs, ce => [⟨cs, ce⟩]
  | fuel + 1, cs, ce =>
    ⟨cs, ce⟩ ::
      (if ce ≥ stop then []
       else
         let cs' := ce
         let ce' := if cs' + chunk > stop then stop else cs' + chunk
         splitLoop stop chunk fuel cs' ce')

def Range.split (r : Range) (chunk : Nat) : List Range :=
  if r.stop - r.start ≤ chunk then [r]
  else
    let currentEnd := (r.start + chunk) - (r.start + chunk) % chunk
    splitLoop r.stop chunk (r.stop - r.start) r.start currentEnd

/-! ### Ranges.Merged / MergedBuckets

The Go code is an index loop with an inner "squash" loop; here: `absorb` is the inner loop (extends the
current end while the next range is adjacent), the outer recursion consumes what was absorbed. -/

/-- inner loop: returns (new end, remaining list). `ok cur next` is the loop's continue condition. -/
def absorb (ok : Nat → Range → Bool) : Nat → List Range → Nat × List Range
  | e, [] => (e, [])
  | e, n :: rest => if ok e n then absorb ok n.stop rest else (e, n :: rest)

theorem absorb_length_le (ok : Nat → Range → Bool) (e : Nat) (l : List Range) :
    (absorb ok e l).2.length ≤ l.length := by
  fun_induction absorb ok e l with
  | case1 => exact Nat.le_refl _
  | case2 _ _ _ _ ih => exact Nat.le_succ_of_le ih
  | case3 => exact Nat.le_refl _

def merged : List Range → List Range
  | [] => []
  | [r] => [r]
  | cur :: next :: rest =>
    if cur.stop ≠ next.start then cur :: merged (next :: rest)
    else
      let p := absorb (fun e n => e == n.start) next.stop rest
      ⟨cur.start, p.1⟩ :: merged p.2
termination_by l => l.length
decreasing_by
  · simp
  · exact Nat.lt_of_le_of_lt (absorb_length_le _ _ _) (by simp; omega)

def mergedBuckets (maxSize : Nat) : List Range → List Range
  | [] => []
  | [r] => [r]
  | cur :: next :: rest =>
    if cur.size ≥ maxSize - 1 then cur :: mergedBuckets maxSize (next :: rest)
    else if cur.stop ≠ next.start ∨ next.stop - cur.start > maxSize then
      cur :: mergedBuckets maxSize (next :: rest)
    else
      let p := absorb (fun e n => e == n.start && !(n.stop - cur.start > maxSize)) next.stop rest
      ⟨cur.start, p.1⟩ :: mergedBuckets maxSize p.2
termination_by l => l.length
decreasing_by
  · simp
  · simp
  · exact Nat.lt_of_le_of_lt (absorb_length_le _ _ _) (by simp; omega)

end SV

namespace SV
/-! ### All segments of a segmenter, all blocks of a range

`stage.NewStages` / `Stages.NextJob` / the squasher walk a store's segments as
`for idx := seg.FirstIndex(); idx <= seg.LastIndex(); idx++ { seg.Range(idx) }`; a tier-2 job receives the
index and runs the blocks `r.StartBlock … r.ExclusiveEndBlock-1` of that `Range` in order. -/

/-- the segments of `s` in index order (indexes without a range contribute nothing) -/
def Segmenter.segments (s : Segmenter) : List Range :=
  (List.range' s.firstIndex (s.lastIndex + 1 - s.firstIndex)).filterMap s.range?

/-- the blocks of a range, in order -/
def Range.blocks (r : Range) : List Nat := List.range' r.start (r.stop - r.start)
end SV
