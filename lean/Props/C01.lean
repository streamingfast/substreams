import Lemmas.Linear
import Lemmas.Compose
/-!
# C01 — The output of a request is independent of the execution strategy

Property: *whatever strategy executes a request — one linear pass, parallel segment jobs of any segment
size, outputs served from files cached by earlier requests — the client receives what the linear
execution produces.*

The linear execution is `SV.Lin.runBlocks` / `SV.Lin.linearSpec` (`Model/Linear.lean`; tied to the Go
code by the differential harness `vh_c01`, which compares every strategy of the real system with
`linearSpec` on every run).  This file proves, for **all** worlds (module scripts), block ranges, states,
segmentations and cache selections:

1. **Segments** (`runBlocks_split`, `runBlocks_prefix`, `segmented_eq_linear`, `segmenter_jobs_eq_linear`,
   `runSegments_cons`; section 1):
   executing consecutive segments of any lengths, each from the state reached at its start boundary, and
   concatenating the per-block results *is* the linear run; a failing segment stops the request at the
   same block with the same results so far.
2. **Cached outputs** (section 3; section 2: the store invariant) (`cached_block_eq_executed`, `cached_eq_executed`, `cache_from_other_run`,
   `cache_from_earlier_run`, `segment_job_cached`, `linearSpecC_eq_linearSpec`,
   `linearSpecC_earlier_request`): `RunModule` taking any subset of the outputs cached by a run — this
   run, a longer or shorter run from the same start, a run that started earlier or later, the linear run
   of any earlier request for the same output module — instead of executing gives *exactly* the run
   without cache: same per-block outputs, same store logs, same final stores, same failure block.  A
   map/index hit appends what the execution appends; a store hit replays the recorded operation log, and
   by `SV.C09.replay_full` the replay on the pre-block store yields the store the execution yields.

Hypotheses and where the real code guarantees them:
* `(w.map (·.name)).Nodup` — `manifest.ValidateModules` (manifest/reader.go) rejects a package with a
  "duplicate module name"; it runs on the client and on tier1/tier2 for every request.
* `LInv st` — every store of the start state has distinct keys and an exact size (`SInv`); holds for the
  empty state (`linv_empty`) and is preserved by every block (`linv_runBlock`, `linv_runBlocks`), so it
  holds at every boundary of a linear run.

**NOT covered here** (stated honestly):
* The store state a tier2 segment job *starts from* (a loaded full snapshot, or squashed partial
  stores) is taken to be the linear state at the boundary.  That step is proved at the store level by
  C02 (squash = sequential, end to end), C10 (save/load round trip) and C12/C13 (plan and segments), and
  checked end to end by the harness, but it is not composed with the theorems below: a squashed
  `set_sum` store equals the sequential one only up to its `set:`/`sum:` tag (known finding
  `C01/set_sum-tag-visible-in-deltas`), so the composition is not an equality of `LState`s.
* Cached outputs written by a request for a **different output module** (hence another `usedMods`
  closure): the files are shared in the real system (keyed by module hash); showing that a module's
  outputs depend only on its ancestors (cone of influence) is not done here.  The harness covers it.
* Scheduling, retries, streaming order and cursor handling (C05, C14–C17).
-/
namespace SV.C01
open SV SV.Lin

/-! ## 1. Segments -/

/-- **"split into parallel segment jobs of any segment size"** — compositionality of the linear run at an
arbitrary boundary `b + n1`: if the first `n1` blocks complete, the run of `n1 + n2` blocks is the run of
the first `n1` followed by the run of `n2` blocks *from the state reached at the boundary* (final state
and failure block are those of the second part, per-block results are concatenated); if the first part
fails, the longer run is that failed run (nothing after the failing block is executed). -/
theorem runBlocks_split (w : World) (md n1 n2 b : Nat) (st : LState) :
    ((runBlocks w md n1 b st).failed = none →
      runBlocks w md (n1 + n2) b st =
        ⟨(runBlocks w md n2 (b + n1) (runBlocks w md n1 b st).st).st,
         (runBlocks w md n1 b st).blocks ++ (runBlocks w md n2 (b + n1) (runBlocks w md n1 b st).st).blocks,
         (runBlocks w md n2 (b + n1) (runBlocks w md n1 b st).st).failed⟩) ∧
    ((runBlocks w md n1 b st).failed ≠ none →
      runBlocks w md (n1 + n2) b st = runBlocks w md n1 b st) := by
  rw [runBlocks_add]
  constructor
  · intro h; rw [h]; rfl
  · intro h
    cases hf : (runBlocks w md n1 b st).failed with
    | none => exact absurd hf h
    | some f => rfl

/-- **"… any segment size"** — the per-block results of a shorter run are a prefix of those of any longer
run from the same start: what a job has produced for a block never depends on how far the job goes on. -/
theorem runBlocks_prefix (w : World) (md n k b : Nat) (st : LState) :
    (runBlocks w md n b st).blocks <+: (runBlocks w md (n + k) b st).blocks := by
  rw [runBlocks_add]
  cases hf : (runBlocks w md n b st).failed with
  | none => exact List.prefix_append _ _
  | some f => exact List.prefix_refl _

/-- **"split into parallel segment jobs of any segment size"** — for every list `ns` of segment lengths:
executing the segments one after the other (`runSegments`: a fold of `segStep`, each segment starting
from the state reached at its start boundary; once a segment has failed no later segment is executed and
the failure block is kept) and concatenating the per-block results equals the linear run of
`ns.sum` blocks — same results, same final state, same failure block. -/
theorem segmented_eq_linear (w : World) (md : Nat) (ns : List Nat) (b : Nat) (st : LState) :
    runSegments w md ns b st = runBlocks w md ns.sum b st := by
  unfold runSegments
  rw [segFold_eq w md ns ⟨st, [], none⟩ b rfl]
  simp only [glue, List.nil_append]

/-- **"split into parallel segment jobs of any segment size"**, with the boundaries the engine really
uses (composition with C13): for every segment size `k`, first block `init` and end block `end_`, the
segments handed out by the real `block.Segmenter` (`Segmenter.segments`: `Range(idx)` for
`idx = FirstIndex() … LastIndex()`, the function the C13 correspondence ties to the Go code), executed
in index order from `init`, are the linear run of the blocks `[init, end_)`. -/
theorem segmenter_jobs_eq_linear (w : World) (md : Nat) (s : Segmenter) (hk : 0 < s.interval)
    (hlt : s.init < s.end_) (st : LState) :
    runSegments w md (s.segments.map Range.size) s.init st = runBlocks w md (s.end_ - s.init) s.init st := by
  rw [segmented_eq_linear, Segmenter.segments_sizes s hk hlt]

/-- The fold `runSegments` unfolded once — how exactly a failure stops a segmented run: if the first
segment fails the result is that segment's result; otherwise the remaining segments run from the boundary
state and their results are appended. -/
theorem runSegments_cons (w : World) (md n : Nat) (ns : List Nat) (b : Nat) (st : LState) :
    runSegments w md (n :: ns) b st =
      match (runBlocks w md n b st).failed with
      | none =>
        ⟨(runSegments w md ns (b + n) (runBlocks w md n b st).st).st,
         (runBlocks w md n b st).blocks ++ (runSegments w md ns (b + n) (runBlocks w md n b st).st).blocks,
         (runSegments w md ns (b + n) (runBlocks w md n b st).st).failed⟩
      | some _ => runBlocks w md n b st := by
  simp only [segmented_eq_linear, List.sum_cons]
  rw [runBlocks_add]
  rfl

/-! ## 2. The store invariant along a linear run -/

/-- the empty start state of a request satisfies the invariant -/
theorem linv_empty : LInv ⟨[]⟩ := LInv.empty

/-- every completed block preserves the invariant (each executed store block ends in a store with
distinct keys and exact size — `execBlock_inv`; `resetStores` keeps content and size) -/
theorem linv_runBlock (w : World) (md b : Nat) (st st' : LState) (bo : BlockOut) (hi : LInv st)
    (h : runBlock w md st b = .ok (st', bo)) : LInv st' := runBlock_linv hi h

/-- hence the invariant holds at every boundary of a linear run -/
theorem linv_runBlocks (w : World) (md n b : Nat) (st : LState) (hi : LInv st) :
    LInv (runBlocks w md n b st).st := runBlocks_linv n b st hi

/-! ## 3. Cached outputs replace execution -/

/-- **"served from outputs cached by earlier requests"**, one block: if every entry the cache holds for
block `b` is the entry of the block's own output file (`CacheOK`: any subset of them), then `RunModule`
with cached outputs (`runBlockC`) produces exactly the state and the output file of the executed block. -/
theorem cached_block_eq_executed (w : World) (md b : Nat) (c : Cache) (st st' : LState) (bo : BlockOut)
    (hn : (w.map (·.name)).Nodup) (hi : LInv st)
    (h : runBlock w md st b = .ok (st', bo)) (hc : CacheOK c b bo) :
    runBlockC w md c st b = .ok (st', bo) := runBlockC_eq_of_ok hn hi h hc

/-- **"… cached by earlier requests"** — the cache may come from a run that started EARLIER (at `b0`, from
`st0`, `N` blocks long, `N` arbitrary) and passed through this run's start: the run of `n` blocks from
block `b0 + k` in the state the earlier run had there is unchanged by any selection of the earlier run's
cached outputs. -/
theorem cache_from_earlier_run (w : World) (md : Nat) (hn : (w.map (·.name)).Nodup) (st0 : LState)
    (hi : LInv st0) (N k n b0 : Nat) (sel : Bytes → Nat → Bool)
    (hk : (runBlocks w md k b0 st0).failed = none) :
    runBlocksC w md (cacheOf (runBlocks w md N b0 st0).blocks sel) n (b0 + k) (runBlocks w md k b0 st0).st =
      runBlocks w md n (b0 + k) (runBlocks w md k b0 st0).st :=
  runBlocksC_eq_of_agrees hn n (b0 + k) _ (runBlocks_linv k b0 st0 hi)
    (cacheOf_earlier_agrees w md N k n b0 st0 sel hk)

/-- **"… cached by earlier requests"** — the cache may come from ANOTHER run from the same start, shorter
or longer (`n'` arbitrary): the entries for common blocks coincide (`findBlock_same_start`), blocks the other
run did not reach (or reached after it had failed) have no entry and are executed. -/
theorem cache_from_other_run (w : World) (md : Nat) (hn : (w.map (·.name)).Nodup) (st : LState) (hi : LInv st)
    (n n' b : Nat) (sel : Bytes → Nat → Bool) :
    runBlocksC w md (cacheOf (runBlocks w md n' b st).blocks sel) n b st = runBlocks w md n b st :=
  cache_from_earlier_run w md hn st hi n' 0 n b sel rfl

/-- **"served from outputs cached by earlier requests"** — a run of `n` blocks that takes any selection
`sel` of its own cached outputs instead of executing is the run itself: same per-block outputs and logs,
same final stores, same failure block. -/
theorem cached_eq_executed (w : World) (md : Nat) (hn : (w.map (·.name)).Nodup) (st : LState) (hi : LInv st)
    (n b : Nat) (sel : Bytes → Nat → Bool) :
    runBlocksC w md (cacheOf (runBlocks w md n b st).blocks sel) n b st = runBlocks w md n b st :=
  cache_from_other_run w md hn st hi n n b sel

/-- **segment jobs *and* cached outputs together** — a segment job (`n2` blocks from the boundary
`b + n1`, started in the linear state of that boundary) that is served from any selection of the outputs
cached by any linear run from the same origin produces the second half of the linear run: gluing it
behind the first segment gives the linear run of `n1 + n2` blocks. -/
theorem segment_job_cached (w : World) (md : Nat) (hn : (w.map (·.name)).Nodup) (st : LState) (hi : LInv st)
    (N n1 n2 b : Nat) (sel : Bytes → Nat → Bool) (h1 : (runBlocks w md n1 b st).failed = none) :
    glue (runBlocks w md n1 b st)
      (runBlocksC w md (cacheOf (runBlocks w md N b st).blocks sel) n2 (b + n1) (runBlocks w md n1 b st).st) =
    runBlocks w md (n1 + n2) b st := by
  rw [cache_from_earlier_run w md hn st hi N n1 n2 b sel h1, runBlocks_add, h1]

/-- **client level** — what the client receives (`linearSpec`: the output module's outputs of
`[start, stop)` and the failure block) when the request's own linear run is served from any selection of
the outputs cached by a run of any length `n'` from the same lowest block. -/
theorem linearSpecC_eq_linearSpec (w : World) (md : Nat) (hn : (w.map (·.name)).Nodup) (output : Bytes)
    (start stop n' : Nat) (sel : Bytes → Nat → Bool) :
    linearSpecC w md
      (cacheOf (runBlocks (usedMods w output) md n' (lowestOf (usedMods w output) start) ⟨[]⟩).blocks sel)
      output start stop = linearSpec w md output start stop :=
  linearSpecC_eq_of (cache_from_other_run (usedMods w output) md (usedMods_nodup output hn) ⟨[]⟩ LInv.empty _ _ _ sel)

/-- **client level, "cached by earlier requests"** — the cache may have been left by the linear run of ANY
request for the same output module, with any other start and stop block (`start'`, `stop'`): below the
lowest initial block nothing is executed, so one of the two linear runs passes through the other's start
state, and every cached output is what this request's own execution produces. -/
theorem linearSpecC_earlier_request (w : World) (md : Nat) (hn : (w.map (·.name)).Nodup) (output : Bytes)
    (start stop start' stop' : Nat) (sel : Bytes → Nat → Bool) :
    linearSpecC w md (cacheOf (linearRun (usedMods w output) md start' stop').blocks sel) output start stop =
      linearSpec w md output start stop :=
  linearSpecC_eq_of (runBlocksC_eq_of_agrees (usedMods_nodup output hn) _ _ ⟨[]⟩ LInv.empty
    (cacheOf_request_agrees (usedMods w output) md start stop start' stop' sel))

/-! ## Non-vacuity: a concrete world

`m1` maps the source, the store `s1` (add/int64) adds `block + |m1's output|` under key `k`, `m2` maps
`m1` and reads `s1`.  The facts about this world are evaluated by the kernel (`decide`); the last examples are
instances of the theorems on it. -/

def nM1 : Bytes := [109, 49]   -- "m1"
def nS1 : Bytes := [115, 49]   -- "s1"
def nM2 : Bytes := [109, 50]   -- "m2"
-- fields: name kind init inputs filterMod filterQ every rem skipEmpty failAt policy vt ops keys
def mM1 : ModSpec := ⟨nM1, .map, 0, [⟨.source, []⟩], [], [], 1, 0, false, none, .unset, .bytes, [], []⟩
def mS1 : ModSpec :=
  ⟨nS1, .store, 0, [⟨.map, nM1⟩], [], [], 1, 0, false, none, .add, .int64, [⟨.sum, 1, [107], 0, 1, 0, 1, 0⟩], []⟩
def mM2 : ModSpec := ⟨nM2, .map, 0, [⟨.map, nM1⟩, ⟨.get, nS1⟩], [], [], 1, 0, false, none, .unset, .bytes, [], []⟩
def demoW : World := [mM1, mS1, mM2]
/-- the same world whose store module fails at block 2 -/
def demoWFail : World := [mM1, { mS1 with failAt := some 2 }, mM2]
/-- `m2@1|Mm1=6d3140317c53|Gs1{k=36/3133/3133}`: what `m2` returns on block 1 -/
def m2AtBlock1 : Bytes :=
  [109, 50, 64, 49, 124, 77, 109, 49, 61, 54, 100, 51, 49, 52, 48, 51, 49, 55, 99, 53, 51,
   124, 71, 115, 49, 123, 107, 61, 51, 54, 47, 51, 49, 51, 51, 47, 51, 49, 51, 51, 125]
/-- everything is cached / only the store's logs are cached / only block 1 is cached -/
def selAll : Bytes → Nat → Bool := fun _ _ => true
def selStore : Bytes → Nat → Bool := fun n _ => n == nS1
def selB1 : Bytes → Nat → Bool := fun _ b => b == 1

-- the hypotheses are satisfiable
example : (demoW.map (·.name)).Nodup := by decide +kernel
example : LInv ⟨[]⟩ := linv_empty
example : (usedMods demoW nM2).map (·.name) = demoW.map (·.name) := by decide +kernel

-- the world is not trivial: three blocks complete, each with two map outputs and one store log …
set_option maxRecDepth 100000 in
example : (runBlocks demoW 10 3 0 ⟨[]⟩).failed = none ∧
    (runBlocks demoW 10 3 0 ⟨[]⟩).blocks.map (fun p => (p.1, p.2.outs.length, p.2.logs.length)) =
      [(0, 2, 1), (1, 2, 1), (2, 2, 1)] := by decide +kernel
-- … the store accumulates (6, then 6 + 7 = 13: `m2` on block 1 sees first/at/last = 6/13/13) …
set_option maxRecDepth 100000 in
example : ((runBlocks demoW 10 2 0 ⟨[]⟩).blocks.map (fun p => outputOf nM2 p.2.outs)).getLast? =
    some (some m2AtBlock1) := by decide +kernel
-- … the cache of that run has map outputs and store logs, and nothing for a block that was not run
set_option maxRecDepth 100000 in
example : (match cacheOf (runBlocks demoW 10 2 0 ⟨[]⟩).blocks selAll nS1 1 with
    | some (.log ops) => ops.length | _ => 0) = 1 := by decide +kernel
set_option maxRecDepth 100000 in
example : (match cacheOf (runBlocks demoW 10 2 0 ⟨[]⟩).blocks selAll nM1 1 with
    | some (.out v) => v.length | _ => 0) = 6 := by decide +kernel
set_option maxRecDepth 100000 in
example : (cacheOf (runBlocks demoW 10 2 0 ⟨[]⟩).blocks selAll nM1 2).isNone = true := by decide +kernel
-- a failing run: the store fails at block 2, two blocks are recorded (both cases of `runBlocks_split`)
set_option maxRecDepth 100000 in
example : (runBlocks demoWFail 10 4 0 ⟨[]⟩).failed = some 2 ∧ (runBlocks demoWFail 10 4 0 ⟨[]⟩).blocks.length = 2 := by
  decide +kernel
-- a segmented run whose second segment fails stops there: the third segment is not executed
set_option maxRecDepth 100000 in
example : (runSegments demoWFail 10 [1, 2, 3] 0 ⟨[]⟩).failed = some 2 ∧
    (runSegments demoWFail 10 [1, 2, 3] 0 ⟨[]⟩).blocks.map (·.1) = [0, 1] := by decide +kernel
-- the cached run really goes through the cache branches (evaluated, not by the theorem): with the
-- store's logs cached the replayed store gives `m2` the same view
set_option maxRecDepth 100000 in
example : ((runBlocksC demoW 10 (cacheOf (runBlocks demoW 10 2 0 ⟨[]⟩).blocks selStore) 2 0 ⟨[]⟩).blocks.map
    (fun p => outputOf nM2 p.2.outs)).getLast? =
    some (some m2AtBlock1) := by decide +kernel
-- instances of the theorems on this world
example : runSegments demoW 10 [1, 2, 0, 3] 0 ⟨[]⟩ = runBlocks demoW 10 6 0 ⟨[]⟩ :=
  segmented_eq_linear demoW 10 [1, 2, 0, 3] 0 ⟨[]⟩
example : runBlocksC demoW 10 (cacheOf (runBlocks demoW 10 5 0 ⟨[]⟩).blocks selB1) 3 0 ⟨[]⟩ =
    runBlocks demoW 10 3 0 ⟨[]⟩ :=
  cache_from_other_run demoW 10 (by decide) ⟨[]⟩ linv_empty 3 5 0 selB1
example : linearSpecC demoW 10 (cacheOf (linearRun (usedMods demoW nM2) 10 0 7).blocks selStore) nM2 2 5 =
    linearSpec demoW 10 nM2 2 5 :=
  linearSpecC_earlier_request demoW 10 (by decide) nM2 2 5 0 7 selStore

-- the real segmenter's cut of [1, 6) with segments of 2 blocks: jobs of 1, 2 and 2 blocks
example : ((⟨2, 1, 6⟩ : Segmenter).segments.map Range.size) = [1, 2, 2] := by decide +kernel
example : runSegments demoW 10 ((⟨2, 1, 6⟩ : Segmenter).segments.map Range.size) 1 ⟨[]⟩ = runBlocks demoW 10 5 1 ⟨[]⟩ :=
  segmenter_jobs_eq_linear demoW 10 ⟨2, 1, 6⟩ (by decide) (by decide) ⟨[]⟩

end SV.C01
