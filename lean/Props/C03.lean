import Lemmas.Forks
import Lemmas.Linear
/-!
# C03 — Reorgs: undo restores every store; clients converge on the canonical chain

Part A (stores) is about `Model/History.lean`: a store driven by blocks, undos of the most recent applied
block and finality, for **every** store configuration and value semantics (every policy / value type), and
every history, flip-flops included.  The canonical chain of a history is `canonCalls h`: the blocks applied
and not undone, computed with exactly `stepHist`'s stack discipline.

Part B (clients) is about `Model/Forks.lean`: the pipeline (`stepF`: `handleStepNew`, `handleStepUndo`,
`handleStepStalled`, `handleStepFinal`, the gate) fed with the steps of the fork resolver, and the client of
the property (`client`: keeps data messages, on an undo signal drops the blocks above `last_valid`).  The
theorems hold for every world of modules, every request configuration, every initial store state and every
step list obeying the resolver's contract `ValidSteps` (checked on every recorded trace of the real
`bstream/forkable` by the harness).

**NOT covered here**: the two parts are not composed in Lean.  Part A speaks of one store under a history
(`runHist`), Part B of the messages of the pipeline; what the pipeline does to its stores on an undo
(`Fk.undoStores`, the reversible outputs `FState.rev`, `delRev`) has no theorem.  So
`payloads_are_block_outputs` says that a payload is what `handleNew` computed on the pipeline's store state of
that moment, not that this state is the canonical chain's; that link is checked by the harness only.
-/
namespace SV.C03
open SV SV.Fk SV.Lin

/-! ## A. stores -/

variable {cfg : Cfg} {sem : Sem}

/-- **"every store holds exactly the content (and reported size) obtained by executing only the blocks of
the current canonical chain."**  After any history of new blocks, undos and finality signals that did not end
in an error, the linear execution of the canonical chain's blocks alone (no undo ever) succeeds too, both
stores hold the same value under every key, both report the same size, and that size is the exact total
length of the keys and values held.  (Undo signals on a store with no un-finalised block are ignored by the
model as by `canonCalls`; merges and save/load are C11's and C02's business.) -/
theorem stores_canonical (h : List Hist) (hf : ForkOnly h) (hd : (runHist cfg sem hs0 h).dead = false) :
    let forked := runHist cfg sem hs0 h
    let linear := runHist cfg sem hs0 ((canonCalls h).map Hist.block)
    linear.dead = false ∧ (∀ k, look forked.s.kv k = look linear.s.kv k) ∧
    forked.s.size = linear.s.size ∧ forked.s.size = kvSize forked.s.kv := by
  intro forked linear
  have hr := (run_rel (cfg := cfg) (sem := sem) h (st := hs0) (c := ⟨[], 0⟩) hinv0 rfl hf rfl
    (show LinContent cfg sem [] (look hs0.s.kv) from ⟨rfl, rfl⟩) hd).lin
  obtain ⟨h1, h2⟩ := hr
  have e1 := (runHist_inv (cfg := cfg) (sem := sem) h hs0 hinv0).sinv
  have e2 := (runHist_inv (cfg := cfg) (sem := sem) ((canonCalls h).map Hist.block) hs0 hinv0).sinv
  have hk : ∀ k, look forked.s.kv k = look linear.s.kv k := fun k => (congrFun h2 k).symm
  refine ⟨h1, hk, ?_, e1.size⟩
  have := kvSize_perm (perm_of_look_eq e1.nodup e2.nodup hk)
  exact e1.size.trans (this.trans e2.size.symm)

/-- **"including chains that flip back and forth over the same blocks."**  The canonical chain of
`prefix, block c, undo, block c, undo, block c` is that of `prefix, block c`: the store ends exactly as if
`c` had been executed once on top of the prefix's canonical chain. -/
theorem flip_flop_canonical (pre : List Hist) (c : List Op) :
    canonCalls (pre ++ [.block c, .undo, .block c, .undo, .block c]) = canonCalls (pre ++ [.block c]) := by
  unfold canonCalls
  simp [List.foldl_append, canonStep]

/-- the flip-flop instance of `stores_canonical`: content and size after `block c, undo, block c, undo,
block c` on top of any fork history are those of the linear execution of the canonical chain of the prefix
followed by `c` once -/
theorem stores_canonical_flip_flop (pre : List Hist) (c : List Op) (hf : ForkOnly pre)
    (hd : (runHist cfg sem hs0 (pre ++ [.block c, .undo, .block c, .undo, .block c])).dead = false) :
    let forked := runHist cfg sem hs0 (pre ++ [.block c, .undo, .block c, .undo, .block c])
    let linear := runHist cfg sem hs0 ((canonCalls (pre ++ [.block c])).map Hist.block)
    linear.dead = false ∧ (∀ k, look forked.s.kv k = look linear.s.kv k) ∧ forked.s.size = linear.s.size := by
  have hf' : ForkOnly (pre ++ [.block c, .undo, .block c, .undo, .block c]) := by
    intro x hx
    rcases List.mem_append.1 hx with hx | hx
    · exact hf x hx
    · simp only [List.mem_cons, List.not_mem_nil, or_false] at hx
      rcases hx with rfl | rfl | rfl | rfl | rfl <;> rfl
  have := stores_canonical (cfg := cfg) (sem := sem) _ hf' hd
  rw [flip_flop_canonical] at this
  exact ⟨this.1, this.2.1, this.2.2.1⟩

/-- **the congruence behind it**: what a block does to a store depends on the store's content only as a
function of the key — never on the order in which the content is held (Go's map iteration order; the
association-list order in the model) — so a content restored by an undo behaves exactly like the content
the linear execution built: same error, or same resulting content, same deltas, same size. -/
theorem block_execution_depends_on_content_only {s1 s2 : Store} (h1 : Clean s1) (h2 : Clean s2)
    (h : ∀ k, look s1.kv k = look s2.kv k) (ho : s1.ops = s2.ops) (calls : List Op) :
    match execBlock cfg sem s1 calls, execBlock cfg sem s2 calls with
    | .error e1, .error e2 => e1 = e2
    | .ok a, .ok b => (∀ k, look a.kv k = look b.kv k) ∧ a.deltas = b.deltas ∧ a.size = b.size
    | _, _ => False :=
  execBlock_congr cfg sem h1 h2 h ho calls

/-! ## B. clients -/

/-- **the invariant behind convergence**: as long as the request has not ended, the client holds — with the
payloads computed when the blocks were (last) applied — the canonical chain from the start block on, and
while a reorg to junction `j` is in progress (the steps end in undo steps announcing `j`) what is left of it
up to `j`: it dropped to `j` at the first undo signal of the reorg. -/
theorem client_view (fcfg : FCfg) (st0 : LState) (steps : List FStep) (hv : ValidSteps steps)
    (hne : (runSteps fcfg (fs0 st0) steps).ended = false) :
    client (runSteps fcfg (fs0 st0) steps).msgs =
      match reorgAfter steps with
      | none => (payloadChain fcfg st0 steps).filter (fun h => decide (fcfg.gateStart ≤ h.1))
      | some j => ((payloadChain fcfg st0 steps).filter (fun h => decide (fcfg.gateStart ≤ h.1))).filter
                    (fun h => decide (h.1 ≤ j.1)) := by
  obtain ⟨_, hm⟩ := run_main fcfg steps (fs0 st0) [] none hv Safe.nil (Or.inr (Main.init fcfg st0))
  rcases hm with hm | hm
  · rw [hne] at hm; cases hm
  · have := hm.view
    unfold viewOf at this
    exact this

/-- **"A client that keeps each data message and, on every undo signal, drops the blocks above its last
valid block ends with exactly the outputs of the canonical chain."**  When the steps do not stop in the
middle of a reorg (`reorgAfter steps = none`: the last undo was followed by a new block) and the request
has not ended (stop block reached or module failure — see `ended_run_is_a_prefix`), the blocks the client
holds are, in order, exactly the blocks (number, id) of the canonical chain at or above the start block. -/
theorem client_converges (fcfg : FCfg) (st0 : LState) (steps : List FStep) (hv : ValidSteps steps)
    (hr : reorgAfter steps = none) (hne : (runSteps fcfg (fs0 st0) steps).ended = false) :
    (client (runSteps fcfg (fs0 st0) steps).msgs).map key =
      (canonChain steps).filter (fun b => decide (fcfg.gateStart ≤ b.1)) := by
  have := client_view fcfg st0 steps hv hne
  rw [hr] at this
  rw [this]
  unfold payloadChain canonChain
  rw [← List.map_nil (f := key), ← chainFrom_key fcfg steps (fs0 st0) [], ← List.map_reverse, List.filter_map]
  rfl

/-- **"ends with exactly the outputs of the canonical chain" — the payloads.**  Under the same hypotheses
every block the client holds carries the payload `handleNew` computed (`newPayload`: the output module's
output on the store state of that moment) at the `new` step that last applied this block: the payload of
a block of the chain is never one computed on an abandoned branch or before an undo. -/
theorem payloads_are_block_outputs (fcfg : FCfg) (st0 : LState) (steps : List FStep) (hv : ValidSteps steps)
    (hr : reorgAfter steps = none) (hne : (runSteps fcfg (fs0 st0) steps).ended = false) :
    client (runSteps fcfg (fs0 st0) steps).msgs =
      (payloadChain fcfg st0 steps).filter (fun h => decide (fcfg.gateStart ≤ h.1)) ∧
    (payloadChain fcfg st0 steps).map key = canonChain steps ∧
    ∀ h ∈ payloadChain fcfg st0 steps, ∃ pre s post, steps = pre ++ s :: post ∧
      (s.kind = .new ∨ s.kind = .newFinal) ∧
      h = (s.num, s.id, newPayload fcfg (runSteps fcfg (fs0 st0) pre).st s.num s.id) := by
  have := client_view fcfg st0 steps hv hne
  rw [hr] at this
  refine ⟨this, ?_, ?_⟩
  · unfold payloadChain canonChain
    rw [List.map_reverse, chainFrom_key]; rfl
  · intro h hh
    unfold payloadChain at hh
    rcases chainFrom_origin fcfg steps (fs0 st0) [] h (List.mem_reverse.1 hh) with h1 | h1
    · simp at h1
    · exact h1

/-- **"each undo signal designates a block the client holds (or one before its first)."**  At every moment
of the message stream (whether or not the request ends later): when an undo signal for `(n, i)` arrives, the
client holds a block with that number and id, or `n` is below the number of the first block it holds (a reorg
reaching below the start block), or it holds nothing yet. -/
theorem undo_designates_held_or_before_first (fcfg : FCfg) (st0 : LState) (steps : List FStep)
    (hv : ValidSteps steps) (pre post : List FMsg) (n : Nat) (i : Bytes)
    (hm : (runSteps fcfg (fs0 st0) steps).msgs = pre ++ FMsg.undo n i :: post) :
    client pre = [] ∨ (∃ p, (n, i, p) ∈ client pre) ∨ (∃ h, (client pre).head? = some h ∧ n < h.1) := by
  obtain ⟨hs, _⟩ := run_main fcfg steps (fs0 st0) [] none hv Safe.nil (Or.inr (Main.init fcfg st0))
  apply hs.undo pre n i
  rw [hm]
  exact ⟨post, by simp⟩

/-- **"the client never sees two blocks at the same height without an undo between them."**  At every
moment of the message stream the numbers of the blocks the client holds are strictly increasing: a data
message for a height the client already holds a block at (or above) can only arrive after an undo signal
has removed that block. -/
theorem no_two_blocks_at_one_height (fcfg : FCfg) (st0 : LState) (steps : List FStep) (hv : ValidSteps steps)
    (pre : List FMsg) (hp : pre <+: (runSteps fcfg (fs0 st0) steps).msgs) :
    ((client pre).map (·.1)).Pairwise (· < ·) := by
  obtain ⟨hs, _⟩ := run_main fcfg steps (fs0 st0) [] none hv Safe.nil (Or.inr (Main.init fcfg st0))
  exact hs.incr pre hp

/-- the same, message by message: when a data message for block `n` arrives, every block the client holds
has a smaller number -/
theorem data_message_is_above_all_held (fcfg : FCfg) (st0 : LState) (steps : List FStep) (hv : ValidSteps steps)
    (pre post : List FMsg) (n : Nat) (i p : Bytes)
    (hm : (runSteps fcfg (fs0 st0) steps).msgs = pre ++ FMsg.data n i p :: post) :
    ∀ h ∈ client pre, h.1 < n := by
  have hp : (pre ++ [FMsg.data n i p]) <+: (runSteps fcfg (fs0 st0) steps).msgs := by
    rw [hm]; exact ⟨post, by simp⟩
  have := no_two_blocks_at_one_height fcfg st0 steps hv _ hp
  rw [client_snoc] at this
  simp only [clientStep, List.map_append, List.map_cons, List.map_nil] at this
  rw [List.pairwise_append] at this
  intro h hh
  exact this.2.2 h.1 (List.mem_map.2 ⟨h, hh, rfl⟩) n (by simp)

/-- **one undo signal per reorg.**  From a state outside a reorg (`insideReorg = none`: what every `new`
and `final` step leaves), any non-empty run of consecutive undo steps announcing the same junction produces
exactly one undo signal, naming that junction, and does not end the request. -/
theorem one_undo_signal_per_reorg (fcfg : FCfg) (fs : FState) (us : List FStep) (jn : Nat) (ji : Bytes)
    (he : fs.ended = false) (hi : fs.insideReorg = none) (hne : us ≠ []) (hj : ji ≠ [])
    (hu : ∀ u ∈ us, u.kind = .undo ∧ u.jNum = jn ∧ u.jId = ji) :
    (runSteps fcfg fs us).msgs = fs.msgs ++ [.undo jn ji] ∧ (runSteps fcfg fs us).ended = false := by
  obtain ⟨h1, h2⟩ := undos_same_junction fcfg jn ji hj us fs he hu
  refine ⟨?_, h1⟩
  rw [h2, hi]
  simp [hne]

/-- the hypothesis of `one_undo_signal_per_reorg` holds after every `new`, `newFinal` and `final` step
that does not end the request (and at the beginning of the request, `fs0`) -/
theorem outside_reorg_after_new_or_final (fcfg : FCfg) (fs : FState) (s : FStep) (he : fs.ended = false)
    (hk : s.kind = .new ∨ s.kind = .newFinal ∨ s.kind = .final)
    (he' : (Fk.stepF fcfg fs s).ended = false) : (Fk.stepF fcfg fs s).insideReorg = none := by
  rcases hk with hk | hk | hk
  · rcases stepF_new fcfg fs s he (Or.inl hk) with ⟨e1, _⟩ | ⟨_, e2, _⟩
    · rw [e1] at he'; cases he'
    · exact e2
  · rcases stepF_new fcfg fs s he (Or.inr hk) with ⟨e1, _⟩ | ⟨_, e2, _⟩
    · rw [e1] at he'; cases he'
    · exact e2
  · exact (stepF_final fcfg fs s he hk).2.2

/-- what the hypothesis "the request has not ended" leaves out: a request that ended (stop block reached,
module failure) delivered exactly the messages of its longest prefix of steps that had not ended — to which
`client_view` / `client_converges` apply (a prefix of a valid step list is valid). -/
theorem ended_run_is_a_prefix (fcfg : FCfg) (st0 : LState) (steps : List FStep)
    (he : (runSteps fcfg (fs0 st0) steps).ended = true) :
    ∃ pre s post, steps = pre ++ s :: post ∧ (runSteps fcfg (fs0 st0) pre).ended = false ∧
      (runSteps fcfg (fs0 st0) steps).msgs = (runSteps fcfg (fs0 st0) pre).msgs :=
  runSteps_ended_prefix fcfg steps (fs0 st0) rfl he

/-- the step contract is prefix-closed: it constrains every moment of the step stream, so the theorems above
apply to every prefix of a valid step list -/
theorem valid_prefix (pre post : List FStep) (hv : ValidSteps (pre ++ post)) : ValidSteps pre :=
  validFrom_of_append pre post [] none hv

/-- **The blocks of the fork tree are the blocks of the linear specification.**  A block of the fork tree is
executed (`runBlockF`, the step `handleNew` performs) with the block *number* deciding everything the engine
decides (initial blocks, the block filter, the scripted failure) and a content that depends on the block's
identity; for a block whose identity is the canonical one (`saltOf id = 0`, the only kind C01/C04/C07 feed)
this is exactly the module fold inside the linear specification's `Lin.runBlock` (which then resets the stores
and packs the block's output). -/
theorem canonical_block_is_linear_block (fcfg : FCfg) (st : LState) (num : Nat) (id : Bytes)
    (h : saltOf id = 0) :
    runBlockF fcfg st num id =
      (usedMods fcfg.world fcfg.output).foldlM
        (runModule (usedMods fcfg.world fcfg.output) fcfg.maxDepth num) ⟨st, [], [], []⟩ := by
  unfold runBlockF
  rw [h, Nat.add_zero]
  congr 1
  funext acc m
  exact runModuleE_self _ _ _ _ _

/-! ## Non-vacuity -/

/-! ### A: a history with a flip-flop over a block that creates, updates and deletes keys -/

def demoCfg : Cfg := ⟨.set, .bytes, 100, 1000, 100⟩
def demoSem : Sem := fun _ _ v => .ok v
def blk1 : List Op := [⟨.set, 1, [97], [1, 2]⟩, ⟨.set, 2, [98], [3]⟩, ⟨.set, 3, [98, 98], [3, 3]⟩]
def blk2 : List Op := [⟨.set, 1, [97], [9]⟩, ⟨.deletePrefix, 2, [98], []⟩, ⟨.set, 3, [99], [4, 5, 6]⟩]
def blk3 : List Op := [⟨.set, 1, [98], [7]⟩, ⟨.deletePrefix, 2, [97], []⟩]
/-- 1, 2, undo 2, 3 (other branch), final, undo 3, 2, undo 2, 2 — and an undo too many at the beginning -/
def demoHist : List Hist :=
  [.undo, .block blk1, .block blk2, .undo, .block blk3, .final, .undo, .block blk2, .undo, .block blk2]

example : ForkOnly demoHist := by decide +kernel
example : (runHist demoCfg demoSem hs0 demoHist).dead = false := by decide +kernel
example : canonCalls demoHist = [blk1, blk2] := by decide +kernel
/-- the forked store and the linear execution of the canonical chain: same content, exact size -/
example : (runHist demoCfg demoSem hs0 demoHist).s.kv = [([97], [9]), ([99], [4, 5, 6])] ∧
    (runHist demoCfg demoSem hs0 ((canonCalls demoHist).map Hist.block)).s.kv = [([97], [9]), ([99], [4, 5, 6])] ∧
    (runHist demoCfg demoSem hs0 demoHist).s.size = 6 := by decide +kernel
/-- why the congruence is needed: an undo restores deleted keys in another order than the linear execution
holds them — the association lists (Go: the map's iteration order) differ, only the contents are equal -/
example : (runHist demoCfg demoSem hs0 [.block blk1, .block blk2, .undo]).s.kv ≠
    (runHist demoCfg demoSem hs0 [.block blk1]).s.kv := by decide +kernel

/-! ### B: 1a 2a 3a | 2b 3b 4b | 2a 3a 4a 5a with finality and stalled signals interleaved -/

def a1 : Bytes := [49, 97]
def a2 : Bytes := [50, 97]
def a3 : Bytes := [51, 97]
def a4 : Bytes := [52, 97]
def a5 : Bytes := [53, 97]
def b2 : Bytes := [50, 98]
def b3 : Bytes := [51, 98]
def b4 : Bytes := [52, 98]

def demoSteps : List FStep :=
  [⟨.newFinal, 0, [48], 0, []⟩,
   ⟨.new, 1, a1, 0, []⟩, ⟨.new, 2, a2, 0, []⟩, ⟨.new, 3, a3, 0, []⟩,
   ⟨.undo, 3, a3, 1, a1⟩, ⟨.undo, 2, a2, 1, a1⟩,
   ⟨.new, 2, b2, 1, a1⟩, ⟨.new, 3, b3, 1, a1⟩, ⟨.new, 4, b4, 1, a1⟩, ⟨.final, 1, a1, 0, []⟩,
   ⟨.undo, 4, b4, 1, a1⟩, ⟨.undo, 3, b3, 1, a1⟩, ⟨.undo, 2, b2, 1, a1⟩,
   ⟨.new, 2, a2, 1, a1⟩, ⟨.new, 3, a3, 1, a1⟩, ⟨.new, 4, a4, 1, a1⟩, ⟨.new, 5, a5, 1, a1⟩,
   ⟨.final, 2, a2, 0, []⟩, ⟨.stalled, 2, b2, 0, []⟩, ⟨.stalled, 3, b3, 0, []⟩]

/-- a request for an (absent) output over an empty world, start block 2 (the reorgs reach below it) -/
def demoFCfg : FCfg := ⟨[], 10, [], 2, 0⟩

example : ValidSteps demoSteps := by decide +kernel
example : reorgAfter demoSteps = none := by decide +kernel
example : canonChain demoSteps = [(0, [48]), (1, a1), (2, a2), (3, a3), (4, a4), (5, a5)] := by decide +kernel
example : (runSteps demoFCfg (fs0 ⟨[]⟩) demoSteps).ended = false := by decide +kernel
example : (runSteps demoFCfg (fs0 ⟨[]⟩) demoSteps).msgs =
    [.data 2 a2 [], .data 3 a3 [], .undo 1 a1, .data 2 b2 [], .data 3 b3 [], .data 4 b4 [], .undo 1 a1,
     .data 2 a2 [], .data 3 a3 [], .data 4 a4 [], .data 5 a5 []] := by decide +kernel
example : (client (runSteps demoFCfg (fs0 ⟨[]⟩) demoSteps).msgs).map key =
    [(2, a2), (3, a3), (4, a4), (5, a5)] := by decide +kernel
/-- a step list that violates the contract (undo of a block that is not the head) is rejected -/
example : ¬ ValidSteps [⟨.new, 1, a1, 0, []⟩, ⟨.new, 2, a2, 0, []⟩, ⟨.undo, 1, a1, 0, [48]⟩] := by decide +kernel
/-- a new block in the middle of a reorg (before the junction is reached) is rejected -/
example : ¬ ValidSteps [⟨.new, 1, a1, 0, []⟩, ⟨.new, 2, a2, 0, []⟩, ⟨.new, 3, a3, 0, []⟩,
    ⟨.undo, 3, a3, 1, a1⟩, ⟨.new, 3, b3, 0, []⟩] := by decide +kernel

end SV.C03
