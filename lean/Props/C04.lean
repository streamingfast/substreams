import Lemmas.Deliver
/-!
# C04 — Each requested block is delivered once, in order; streams resume from cursors

`deliver lin r` is what the client of a request `r = [start, stop)` with hand-off `handoff` receives, as a
function of the linear specification `lin` (the output module's output, or none, on every executed
block): below the hand-off the items of the cached output files (only blocks that have an output),
from the hand-off on every block (empty payload when there is no output).  The hand-off itself is
decided by the planner (C12: `dev_handoff_le_start`, `plan_partition`).  All theorems hold for every
`lin` in block order, every request and every hand-off — no bound.
-/
namespace SV.C04
open SV SV.Lin

/-- the executed blocks come in strictly increasing order (true of `linearSpec`, see `linear_increasing`) -/
def Increasing (lin : List (Nat × Option Bytes)) : Prop := lin.Pairwise (fun a b => a.1 < b.1)

/-- "every data message carries a block of that range" -/
theorem in_range (lin : List (Nat × Option Bytes)) (r : DReq) (m : DMsg) (h : m ∈ deliver lin r) :
    r.start ≤ m.num ∧ m.num < r.stop := by
  obtain ⟨_, _, h1, h2, _⟩ := mem_deliver.1 h
  exact ⟨h1, h2⟩

/-- "block numbers are strictly increasing with no duplicate … across the hand-off" -/
theorem strictly_increasing (lin : List (Nat × Option Bytes)) (r : DReq) (h : Increasing lin) :
    (deliver lin r).Pairwise (fun a b => a.num < b.num) := by
  rw [deliver_eq]
  apply List.Pairwise.filterMap _ _ h
  intro a a' hlt b hb b' hb'
  rw [(deliverOne_eq_some.1 hb).2.2.1, (deliverOne_eq_some.1 hb').2.2.1]
  exact hlt

/-- "… with no gap": every executed block from the hand-off on (and from the start block when the
hand-off is at or below it — development mode) is delivered, even when its output is empty -/
theorem complete_from_handoff (lin : List (Nat × Option Bytes)) (r : DReq) (b : Nat) (o : Option Bytes)
    (hmem : (b, o) ∈ lin) (h1 : r.start ≤ b) (h2 : r.handoff ≤ b) (h3 : b < r.stop) :
    (⟨b, o.getD []⟩ : DMsg) ∈ deliver lin r :=
  mem_deliver.2 ⟨o, hmem, h1, h3, by rw [if_neg (Nat.not_lt.2 h2)]⟩

/-- below the hand-off exactly the blocks that have an output are delivered (blocks whose output is
empty "may be omitted while back-filling"), with that output -/
theorem backfilled_iff (lin : List (Nat × Option Bytes)) (r : DReq) (b : Nat) (v : Bytes)
    (h1 : r.start ≤ b) (h2 : b < r.handoff) (h3 : b < r.stop) (hinc : Increasing lin) :
    (⟨b, v⟩ : DMsg) ∈ deliver lin r ↔ (b, some v) ∈ lin := by
  rw [mem_deliver]
  constructor
  · rintro ⟨o, hmem, _, _, ho⟩
    rw [if_pos h2] at ho
    exact ho ▸ hmem
  · intro hmem
    exact ⟨some v, hmem, h1, h3, by rw [if_pos h2]⟩

/-- no payload is altered or invented: every delivered payload is the linear output of its block -/
theorem payload_is_linear_output (lin : List (Nat × Option Bytes)) (r : DReq) (m : DMsg)
    (h : m ∈ deliver lin r) : ∃ o, (m.num, o) ∈ lin ∧ m.payload = o.getD [] := by
  obtain ⟨o, hmem, _, _, ho⟩ := mem_deliver.1 h
  refine ⟨o, hmem, ?_⟩
  split at ho
  · rw [ho]; rfl
  · exact ho

/-- "nothing is delivered after an error": when execution stops after `k` blocks (a module failed on
the next one), what is delivered is a prefix of the fault-free stream -/
theorem nothing_after_error (lin : List (Nat × Option Bytes)) (r : DReq) (k : Nat) :
    (deliver (lin.take k) r) <+: (deliver lin r) := by
  unfold deliver
  exact (List.take_prefix k lin).filterMap _

/-- "Starting a new request from the cursor of any delivered final block yields exactly the messages
that followed it": the resumed request starts right after block `c`; its hand-off is either the same
or both hand-offs are already behind (at or below `c+1`) — which is what the planner computes for a
later start (C12).  `c` is a block number: the cursor itself (step, head, LIB) is not part of `DMsg`; how a
cursor is resolved to a start block is C12's. -/
theorem resume (lin : List (Nat × Option Bytes)) (r : DReq) (c : Nat) (handoff' : Nat)
    (hc : r.start ≤ c + 1)
    (hh : handoff' = r.handoff ∨ (r.handoff ≤ c + 1 ∧ handoff' ≤ c + 1)) :
    deliver lin ⟨c + 1, r.stop, handoff'⟩ = (deliver lin r).filter (fun m => decide (c < m.num)) := by
  rw [deliver_eq, deliver_eq, List.filter_filterMap]
  exact congrArg (lin.filterMap ·) (funext (deliverOne_resume r c handoff' hc hh))

/-- the linear specification produces its blocks in strictly increasing order, one entry per block -/
theorem runBlocks_nums (w : World) (md : Nat) : ∀ (n b : Nat) (st : LState),
    ∃ k, k ≤ n ∧ (runBlocks w md n b st).blocks.map (·.1) = List.range' b k ∧
      ((runBlocks w md n b st).failed = none → k = n) := by
  intro n b st
  fun_induction runBlocks w md n b st with
  | case1 => exact ⟨0, Nat.le_refl _, rfl, fun _ => rfl⟩
  | case2 => exact ⟨0, Nat.zero_le _, rfl, nofun⟩
  | case3 n b st st' outs hb r ih =>
    obtain ⟨k, hk, hm, hf⟩ := ih
    exact ⟨k + 1, Nat.succ_le_succ hk, by rw [List.map_cons, hm, List.range'_succ], fun h => congrArg (· + 1) (hf h)⟩

theorem linear_increasing (w : World) (md : Nat) (output : Bytes) (start stop : Nat) :
    Increasing (linearSpec w md output start stop).1 := by
  unfold linearSpec Increasing
  simp only
  generalize hu : usedMods w output = u
  generalize hl : u.foldl (fun acc m => min acc m.init) start = lowest
  obtain ⟨k, _, hm, _⟩ := runBlocks_nums u md (stop - lowest) lowest ⟨[]⟩
  have hp : (runBlocks u md (stop - lowest) lowest ⟨[]⟩).blocks.Pairwise (fun a b => a.1 < b.1) := by
    have : ((runBlocks u md (stop - lowest) lowest ⟨[]⟩).blocks.map (·.1)).Pairwise (· < ·) := by
      rw [hm]; exact List.pairwise_lt_range'
    exact (List.pairwise_map.1 this)
  apply List.Pairwise.map (R := fun a b => a.1 < b.1)
  · intro a b h; exact h
  · exact hp.filter _

/-! ### Non-vacuity -/

def demoLin : List (Nat × Option Bytes) :=
  [(5, some [1]), (6, none), (7, some []), (8, some [2]), (9, none), (10, some [3]), (11, none)]

example : Increasing demoLin := by unfold Increasing demoLin; decide +kernel
example : deliver demoLin ⟨6, 11, 8⟩ = [⟨7, []⟩, ⟨8, [2]⟩, ⟨9, []⟩, ⟨10, [3]⟩] := by decide +kernel
example : deliver demoLin ⟨9, 11, 8⟩ = (deliver demoLin ⟨6, 11, 8⟩).filter (fun m => decide (8 < m.num)) := by decide +kernel

end SV.C04
