import Lemmas.SchedTerm
/-!
# C05 — The segment scheduler is safe and live under every ordering of events

Property theorems only (model: `Model/Stages.lean`, `Model/Sched.lean`; lemmas: `Lemmas/Stages.lean`,
`Lemmas/Sched.lean`).

Everything is quantified over **all** configurations `c` (any number of stages, modules, segments, workers;
`c.OK` is what the request planner guarantees: positive segment size, ranges ending on the hand-off boundary,
only the last stage may be a mapper stage), **all** sets of initial files, and **all** reachable states, i.e. all
orders in which the in-flight commands answer and all behaviours of the ramp-up clock (`Reachable`).

`fix : Patch` says which of the three scheduler fixes the modelled code contains: `fix.deps` = d60dce44
(`dependenciesCompleted`), `fix.shadow` = 9da4cc23 (`markShadowedUnits`), `fix.stageIdx` = 38ce9883 (stage index of
the tier-2 request).  All three are committed: `Patch.head = Patch.all` is the repository at HEAD and satisfies
the hypotheses `fix.shadow = true`, `fix.deps = true` of the theorems.  For the code BEFORE these fixes
(`Patch.before`, `Patch.none`) `job_deps_complete`, `merge_next_segment_only`/`in_flight_consistent`, `no_invalid_transition`
and `progress_partial` are FALSE: the kernel-checked `example`s at the end are the counterexamples (the defects F15, F19,
F20, F21 in the numbering of these files; each was replayed on the real code of that time by
`harness/cmd/vh_c05`, and is replayed on HEAD at every run as a regression case).
-/
namespace SV.C05
open SV SV.Stg SV.Stg.Stages SV.Sch

variable {c : Cfg} {fix : Patch} {files : Files} {st : State}

/-! ## no invalid transition -/

/-- **no_invalid_transition.**  No reachable state is a panic: the guard of `transition` never fails
(`invalidTransition`), `setState` never indexes outside the matrix, `MarkSegmentMerging` is never called before the
previous segment is complete, `NextJob` never dereferences a nil range, the worker pool is never asked for a
worker it does not have and never gets a worker back twice. -/
theorem no_invalid_transition (hc : c.OK) (hf : fix.shadow = true) (h : Reachable c fix files st) :
    ∀ e, st.ended ≠ some (.panic e) :=
  (reachable_good hc hf h).noPanic

/-- The invariant behind it: a job in flight is for a unit that is Scheduled and holds a worker that is
working; a merge in flight is for a unit that is Merging; no unit has two jobs or two merges in flight and no
worker two jobs. -/
theorem in_flight_consistent (hc : c.OK) (hf : fix.shadow = true) (h : Reachable c fix files st) :
    (∀ u sb w, Cmd.job u sb w ∈ st.inFlight →
        st.stages.getState u.seg u.stage = .scheduled ∧ st.pool.workers[w]? = some WState.working) ∧
    (st.inFlight.filterMap Cmd.jobUnit).Nodup ∧ (st.inFlight.filterMap Cmd.jobWorker).Nodup ∧
    (∀ u, Cmd.merge u ∈ st.inFlight → st.stages.getState u.seg u.stage = .merging) ∧
    (st.inFlight.filterMap Cmd.mergeUnit).Nodup :=
  let b := (reachable_good hc hf h).inv.bag
  ⟨b.jobs, b.jobU, b.jobW, b.merges, b.mergeU⟩

/-! ## a job starts only when its dependencies are complete -/

/-- **job_deps_complete.**  When a step hands the unit `u = (segment, stage)` to a worker (`handedOut`), then for
every lower stage `i` that has data in or before that segment: the unit of the PREVIOUS segment is Completed (or
NoOp: nothing to do) — that is where the tier-2 job loads the full snapshots of stage `i` from — and the unit of
the SAME segment is Completed/NoOp, or its partial is present, or it is Shadowed, i.e. produced by this very job
(a tier-2 job at stage `s` also writes the missing store files of the stages below `s` for its segment).
(A lower stage whose first segment is later than `u`'s has no data yet: no dependency.) -/
theorem job_deps_complete (hc : c.OK) (hf : fix.shadow = true) (hd : fix.deps = true)
    (h : Reachable c fix files st) (idx : Nat) (elapsed : Bool) (u : WorkUnit)
    (hu : handedOut st idx elapsed = some u) :
    (step st idx elapsed).stages.getState u.seg u.stage = .scheduled ∧
    ∀ i, i < u.stage → (st.stages.stageAt i).seg.firstIndex ≤ u.seg →
      ((st.stages.stageAt i).seg.firstIndex < u.seg →
        (step st idx elapsed).stages.previousUnitComplete ⟨u.seg, i⟩ = true) ∧
      ((step st idx elapsed).stages.getState u.seg i = .completed ∨
       (step st idx elapsed).stages.getState u.seg i = .noOp ∨
       (step st idx elapsed).stages.getState u.seg i = .shadowed ∨
       (step st idx elapsed).stages.getState u.seg i = .partialPresent) := by
  have hg := reachable_good hc hf h
  have hfix : st.fix = fix := (reachable_fix h).1
  exact handedOut_deps hg (by rw [hfix]; exact hd) hu

/-! ## every store's segments are merged once, in block order -/

/-- **merge_once_in_order (order).**  Every merge in flight is the merge of the NEXT segment of a store stage
(`segmentCompleted + 1`), that unit is Merging, and the unit of the segment before it is complete: segments are
merged in block order, one at a time per stage. -/
theorem merge_next_segment_only (hc : c.OK) (hf : fix.shadow = true) (h : Reachable c fix files st) (u : WorkUnit)
    (hu : Cmd.merge u ∈ st.inFlight) :
    st.stages.getState u.seg u.stage = .merging ∧ st.stages.previousUnitComplete u = true ∧
    ∃ i, (st.stages.stageAt i).kind = .store ∧ u = ⟨(st.stages.stageAt i).next, (st.stages.stageAt i).idx⟩ := by
  have g := reachable_good2 hc hf h
  exact ⟨g.good.inv.bag.merges u hu, g.merges.prev u hu, g.merges.next u hu⟩

/-- **merge_once_in_order (once), part 1.**  No unit ever moves backwards in its life cycle
Pending/NoOp < Shadowed/Scheduled < PartialPresent < Merging < Completed.  In particular a unit that is Merging or
Completed is never PartialPresent again, and `CmdTryMerge` only starts a merge for a PartialPresent unit: a segment
cannot be merged a second time. -/
theorem unit_never_moves_back (hc : c.OK) (hf : fix.shadow = true) (h : Reachable c fix files st)
    (idx : Nat) (elapsed : Bool) (seg stage : Nat) :
    rank (st.stages.getState seg stage) ≤ rank ((step st idx elapsed).stages.getState seg stage) :=
  runSched_mono hc hf h [(idx, elapsed)] seg stage

/-- Completed is for ever. -/
theorem completed_stays_completed (hc : c.OK) (hf : fix.shadow = true) (h : Reachable c fix files st)
    (idx : Nat) (elapsed : Bool) (seg stage : Nat) (hcomp : st.stages.getState seg stage = .completed) :
    (step st idx elapsed).stages.getState seg stage = .completed := by
  have := unit_never_moves_back hc hf h idx elapsed seg stage
  rw [hcomp] at this
  cases hs : (step st idx elapsed).stages.getState seg stage <;> rw [hs] at this <;> simp [rank] at this

/-- **merge_once_in_order (once), part 2.**  When the squasher's result for `u` is delivered (the merge found its
files), the unit becomes Completed — together with `in_flight_consistent` (no two merges of one unit in flight, a
merge in flight only for a Merging unit) and `completed_stays_completed`: each segment of each store is merged at
most once. -/
theorem merge_result_completes (hc : c.OK) (hf : fix.shadow = true) (h : Reachable c fix files st)
    (idx : Nat) (elapsed : Bool) (u : WorkUnit) (hend : st.ended = none) (hcmd : st.bag[idx]? = some (.merge u))
    (hfiles : (runMerge st.stages u st.files).isSome) :
    (step st idx elapsed).stages.getState u.seg u.stage = .completed :=
  step_merge_completes (reachable_good hc hf h) hend hcmd hfiles

/-! ## the end state is the right one -/

/-- **final_state_complete.**  When the scheduler quits without error (`quitNil`), the work is done: every store
stage is complete up to its last segment (`allStoresCompleted`), both completion flags are set, and when a file
walker streams the output, it has seen the output file of every segment of its range. -/
theorem final_state_complete (hc : c.OK) (hf : fix.shadow = true) (h : Reachable c fix files st)
    (hend : st.ended = some .quitNil) :
    st.stages.allStoresCompleted = true ∧ st.outDone = true ∧ st.storesDone = true ∧
    ∀ w, st.walker = some w → ∀ i, w.seg.firstIndex ≤ i → i ≤ w.seg.lastIndex →
      ∃ r, w.seg.range? i = some r ∧ st.files.hasOutput r.start r.stop = true := by
  have hF := reachable_liveF hc hf h
  have hW := reachable_liveW hc hf h
  obtain ⟨ho, hs, ha⟩ := hF.endNil hend
  refine ⟨ha, ho, hs, ?_⟩
  intro w hw i h1 h2
  have hd := hW.doneW ho w hw
  simp only [Walker.isDone, decide_eq_true_eq] at hd
  exact hW.outs w hw i h1 (by omega)

/-! ## progress -/

/-- **progress_partial.**  The control part of `progress`: in a reachable state that has not ended and in which
NOTHING is in flight (no command, no job, no merge, no timer), the output stream is complete and the stores are
the only thing missing: `storesDone` is false (or the output is an index module without walker whose last stage is
not complete).  In other words: the walker never stalls, the two completion flags always lead to the shutdown,
and a scheduler can only ever be stuck INSIDE `Stages` (NextJob / CmdTryMerge find nothing to do although a store
is incomplete).

MISSING CASE for the full `progress`: that last situation is impossible for `Stages` at HEAD — it is exactly
what F19/F20 produced on the code before the fixes (`example`s below).  The candidate invariants for it (a Scheduled unit
has its job in flight, a Merging unit its merge, a working worker its job; a Shadowed unit has a
Pending/Scheduled/Shadowed unit above it; no stage is mergeable at rest; `NextJob` finds nothing only while a
`scheduleNextJob`, timer or job is in flight; the units below `segmentCompleted` are complete) are checked by the
model's explorer (`EXPLORE … v=1`, class prefix `inv/`) on every reachable state of every explored
configuration: no violation with the patches on. -/
theorem progress_partial (hc : c.OK) (hf : fix.shadow = true) (h : Reachable c fix files st)
    (hend : st.ended = none) (hidle : st.inFlight = []) :
    st.outDone = true ∧
    (st.storesDone = false ∨ (st.walker = none ∧ st.stages.outIsIndex = true)) := by
  have hF := reachable_liveF hc hf h
  have hW := reachable_liveW hc hf h
  have ho : st.outDone = true := by
    cases hwk : st.walker with
    | none => exact hW.noWalker hwk
    | some w =>
      cases hod : st.outDone with
      | true => rfl
      | false =>
        exfalso
        cases hwork : w.working with
        | true =>
          rcases hW.walkA w hwk hod hwork with ⟨seg, hm⟩ | hm <;> rw [hidle] at hm <;> cases hm
        | false =>
          have hm := hW.walkB w hwk hod hwork
          rw [hidle] at hm; cases hm
  refine ⟨ho, ?_⟩
  cases hsd : st.storesDone with
  | false => exact Or.inl rfl
  | true =>
    right
    cases hwk : st.walker with
    | some w =>
      have hm := hF.both ho hsd hend (Or.inl (by rw [hwk]; rfl))
      rw [hidle] at hm; cases hm
    | none =>
      refine ⟨rfl, ?_⟩
      cases hx : st.stages.outIsIndex with
      | true => rfl
      | false =>
        have hm := hF.both ho hsd hend (Or.inr hx)
        rw [hidle] at hm; cases hm

/-! ## termination -/

/-- **terminates_partial.**  From every reachable state, the relation "one step that executes a command of the bag
and is not a POLL" (`WorkStep`) is well-founded: there is no infinite sequence of such steps.  A poll (`polls`) is
a step that asks again later: the walker looks for an output file that is not there yet, or `scheduleNextJob`
finds every worker busy/waiting during the ramp-up delay and arms a timer.
(Measure, lexicographic: how far the units of the matrix are from Completed — every job handed out, every job
result, every finished merge moves a unit forward and nothing ever moves one back —, then the segments the walker
still has to see, then the weight of the commands in flight.)

MISSING for the full `terminates` (every fair run reaches `quitNil`): (1) the full `progress` (see
`progress_partial`: its Stages-level core case), (2) fairness of the environment — the ramp-up delay elapses and
a polled file is eventually there, which is again `progress` of the jobs that write it.  With `progress_partial`,
`final_state_complete` and this theorem: a run can only go on for ever by polling, and can only stop early inside
`Stages`. -/
theorem terminates_partial (hc : c.OK) (hf : fix.shadow = true) (h : Reachable c fix files st) :
    Acc (WorkStep c fix files) st := by
  obtain ⟨B, n, hb⟩ := bnd_exists st.stages
  exact acc_workStep hc hf B n _ st rfl h hb

/-- the same as a statement about runs: in every infinite sequence of steps from a reachable state there is a
step at which the scheduler has ended, or that executes nothing (no such command in the bag), or that is a poll
(applied to the tails of the run: infinitely many). -/
theorem no_infinite_work (hc : c.OK) (hf : fix.shadow = true) (run : Nat → State) (idx : Nat → Nat) (el : Nat → Bool)
    (h0 : Reachable c fix files (run 0)) (hstep : ∀ k, run (k + 1) = step (run k) (idx k) (el k)) :
    ∃ k, (run k).ended ≠ none ∨ (run k).bag.length ≤ idx k ∨ polls (run k) (idx k) (el k) = true := by
  have hacc := terminates_partial hc hf h0
  generalize hst : run 0 = st0 at hacc
  induction hacc generalizing run idx el with
  | intro st0 _ ih =>
    by_cases h1 : (run 0).ended = none
    · by_cases h2 : idx 0 < (run 0).bag.length
      · cases h3 : polls (run 0) (idx 0) (el 0) with
        | true => exact ⟨0, Or.inr (Or.inr h3)⟩
        | false =>
          have hw : WorkStep c fix files (run 1) st0 := by
            rw [← hst]
            exact ⟨h0, idx 0, el 0, h1, h2, h3, hstep 0⟩
          obtain ⟨k, hk⟩ := ih (run 1) hw (fun k => run (k + 1)) (fun k => idx (k + 1)) (fun k => el (k + 1))
            (by show Reachable c fix files (run 1); rw [hstep 0]; exact Reachable.step _ _ h0)
            (fun k => hstep (k + 1)) rfl
          exact ⟨k + 1, hk⟩
      · exact ⟨0, Or.inr (Or.inl (Nat.le_of_not_lt h2))⟩
    · exact ⟨0, Or.inl h1⟩

/-! ## the code before the fixes violates these properties: kernel-checked counterexamples

`Patch.before` is the code before d60dce44/9da4cc23 (`Patch.none` = also before the stage-index fix 38ce9883).  Each
witness was found by the harness or the model's explorer and replayed on the real `Scheduler.Update` of that code
(same states after every message). -/
section counterexamples
open Witness

/-- the witness configurations satisfy the hypotheses of the theorems -/
example : cfgF15.OK ∧ cfgF20.OK ∧ cfgTwice.OK ∧ cfgDead.OK ∧ cfgPanic.OK ∧ cfgShift.OK :=
  ⟨ok_of_check _ (by decide +kernel), ok_of_check _ (by decide +kernel), ok_of_check _ (by decide +kernel), ok_of_check _ (by decide +kernel),
   ok_of_check _ (by decide +kernel), ok_of_check _ (by decide +kernel)⟩

/-- **F15** (`job_deps_complete` is false before d60dce44).  Stores S0@5 (stage 0), S1@25 (stage 1), mapper@25, segment 10,
start 25, empty cache, one worker: after this schedule `NextJob` hands out (segment 2, stage 2) — the first segment of
the mapper stage — although the unit (1, 0) is not complete and S0's snapshot at block 20 does not exist. -/
example : (after cfgF15 Patch.before ⟨[], []⟩ schedF15).map (fun st =>
    (handedOut st 3 true, (step st 3 true).stages.previousUnitComplete ⟨2, 0⟩, st.files.hasFull 0 0 20 5)) =
    some (some ⟨2, 2⟩, false, false) := by decide +kernel

/-- with the patch of `dependenciesCompleted` the same schedule hands out (2, 0) instead -/
example : (after cfgF15 Patch.all ⟨[], []⟩ schedF15).map (fun st => handedOut st 3 true) = some (some ⟨2, 0⟩) := by decide +kernel

/-- **F20** (`job_deps_complete`, second cause): the lower store has its snapshot at block 20 (segment 1 Completed from
the cache) but not at block 10; (segment 1, stage 1) is handed out while (0, 0) is not complete. -/
example : (after cfgF20 Patch.before filesF20 schedF20).map (fun st =>
    (handedOut st 1 true, (step st 1 true).stages.previousUnitComplete ⟨1, 0⟩, st.files.hasFull 0 0 10 0)) =
    some (some ⟨1, 1⟩, false, false) := by decide +kernel

/-- **F19** (`merge_once_in_order` was false before 9da4cc23): an interrupted earlier request left the partial of S for
segment 0; `markShadowedUnits` overwrites the Merging unit with Shadowed, the mapper job turns it into PartialPresent
again and a second merge of the same segment is started while the first one is still in flight. -/
example : (after cfgTwice Patch.before filesTwice schedTwice).map (fun st => st.bag.filterMap Cmd.mergeUnit) =
    some [⟨0, 0⟩, ⟨0, 0⟩] := by decide +kernel

/-- **F19** (`no_invalid_transition` was false before 9da4cc23): a Scheduled unit is overwritten with Shadowed while its job
runs; `MarkJobSuccess` then panics: invalid transition from "Shadowed" to "PartialPresent". -/
example : (after cfgPanic Patch.before filesPanic schedPanic).map (fun st => (step st 0 true).ended) =
    some (some (.panic (.invalidTransition .shadowed .partialPresent))) := by decide +kernel

/-- **F19** (`progress` was false before 9da4cc23, with an EMPTY cache): three store stages and a mapper, three segments, two
workers.  After this schedule nothing is in flight, the scheduler has not quit, the stores are not complete: the unit
(segment 1, stage 1) is Shadowed for ever (its PartialPresent state was overwritten when the stage above went
Merging). -/
example : (after cfgDead Patch.before ⟨[], []⟩ schedDead).map (fun st =>
    (st.ended, st.bag.length, st.stages.allStoresCompleted, st.stages.getState 1 1)) =
    some (none, 0, false, .shadowed) := by decide +kernel

/-- **F21** (fixed at HEAD): before commit 38ce9883 the unit handed out carried the POSITION of the mapper stage (0)
while the stage is number 1 of the graph: tier2 ran the store stage and the output was never written. -/
example : (after cfgShift Patch.none ⟨[], []⟩ schedShift).map (fun st =>
    (handedOut st 0 false, (st.stages.stageAt 0).idx)) = some (some ⟨0, 0⟩, 1) := by decide +kernel

/-- non-vacuity of the theorems: the scheduler at HEAD runs the same schedule from the same initial state, and the unit
that stayed Shadowed there is Completed -/
example : ∃ st, after cfgDead Patch.all ⟨[], []⟩ schedDead = some st ∧ Reachable cfgDead Patch.all ⟨[], []⟩ st ∧
    st.stages.getState 1 1 = .completed := by
  have hsome : ((after cfgDead Patch.all ⟨[], []⟩ schedDead).map fun st => st.stages.getState 1 1) = some .completed := by
    decide +kernel
  unfold after at hsome ⊢
  cases h : Sch.init cfgDead Patch.all ⟨[], []⟩ with
  | error e => rw [h] at hsome; cases hsome
  | ok st0 =>
    rw [h] at hsome
    simp only [Option.map_some, Option.some.injEq] at hsome
    exact ⟨_, rfl, (Reachable.init h).runSched _, hsome⟩

end counterexamples

end SV.C05
