import Lemmas.Hash
/-!
# C06 — A module's cache identity changes exactly when its computation can change

Property theorems only (model: `Model/Hash.lean`, `Model/Sha1.lean`; lemmas: `Lemmas/Hash.lean`).

`hashN H P r k n` is the model of `hashModule` for the module named `n` of the package `P`
(`H` = the hash function, SHA-1 in the code; `r` bounds the dependency paths followed by
`AncestorsOf`, `k` the recursion depth of `hashModule`).  `hash H P n = hashN H P |P| |P| n` is what
the driver runs and what is compared with `exec.Graph.ModuleHashes().Get(n)`.  The theorems about
`hashN` hold for every `r` and every `k` (so also for `hash` whenever both sides have the same number
of modules); those of sections 1, 2 and 4 hold for every `H`.

The model mirrors `NewModuleGraph` after commit 17e1a4e4: only map and store inputs are dependency
edges, so `hash_rename` and `hash_alias_import` need no side condition on params values or source
types.

About the hypothesis on `H`.  "`H` injective" alone does **not** imply that a change propagates to
descendants: the ancestors' hashes are concatenated without separators, so the decoding relies on
all hashes having the same length (20 bytes for SHA-1) — and no function with a fixed output length
is injective.  The sensitivity theorems therefore assume `FixedLen H n` plus `NoCollisionAt`: `H`
does not collide *on the two pre-images being compared* (old and new pre-image of the same module).
Non-vacuity is shown with a concrete `H` (`padH`).  For the edited module itself the plain
`Function.Injective H` version is given as well (`hash_self_sensitive_injective`, instance `H := id`).
-/
namespace SV.C06
open SV.Hash

/-! ## 1. Identity-preserving transformations (every hash function) -/

/-- Side conditions of a consistent renaming `ρ` of the modules of `P`. -/
structure RenameOK (ρ : Bytes → Bytes) (P : Modules) : Prop where
  /-- distinct names stay distinct -/
  inj : ∀ a b, ρ a = ρ b → a = b
  /-- `ValidateModules`: no empty module name, before and after -/
  nonempty : NonEmptyNames P.modules
  nonempty' : NonEmptyNames (rename ρ P).modules

/-- **Renaming** modules consistently (names, map/store inputs, filter modules — what
`prefixModules` does) leaves every hash unchanged. -/
theorem hash_rename (H : Bytes → Bytes) (ρ : Bytes → Bytes) (P : Modules) (ok : RenameOK ρ P)
    (r k : Nat) (b : Bytes) : hashN H (rename ρ P) r k (ρ b) = hashN H P r k b :=
  hashN_graphMap H P P.binaries ρ (renameModule ρ) ok.inj ⟨fun _ => rfl, fun _ => rfl, fun _ => rfl⟩
    ⟨fun _ => rfl, fun _ => rfl, fun _ => rfl, fun _ _ => rfl⟩ ok.nonempty ok.nonempty' r k b

/-- the same for the identifier the driver computes (`ModuleHashes().Get`) -/
theorem hash_rename_top (H : Bytes → Bytes) (ρ : Bytes → Bytes) (P : Modules) (ok : RenameOK ρ P) (b : Bytes) :
    hash H (rename ρ P) (ρ b) = hash H P b :=
  hash_eq_of_length (List.length_map _) fun r k => hash_rename H ρ P ok r k b

/-- **Importing a package under an alias** (`prefixModules` + `reindexAndMergePackage`): the imported
module `alias:b` has the hash module `b` has in the imported package on its own. -/
theorem hash_alias_import (H : Bytes → Bytes) (alias : Bytes) (src dest : Modules) (ok : ImportOK alias src dest)
    (r k : Nat) (b : Bytes) (hb : hasName src.modules b = true) :
    hashN H (importPkg alias src dest) r k (withPrefix alias b) = hashN H src r k b :=
  hashN_importPkg H alias src dest ok r k b hb

/-- **Adding unrelated modules** (anywhere in the list, with new binaries appended or not): if
`P.modules` is a sub-list of `P'.modules`, names stay distinct, old modules see the same binaries and
no added module is reachable from `m0`, then `m0` keeps its hash. -/
theorem hash_add_unrelated (H : Bytes → Bytes) (P P' : Modules) (hs : P.modules.Sublist P'.modules)
    (hnd : (P'.modules.map (·.name)).Nodup)
    (hbin : ∀ m ∈ P.modules, binaryOf P' m = binaryOf P m)
    (m0 : Bytes) (hm0 : hasName P.modules m0 = true)
    (hunrelated : ∀ c, Reach P'.modules m0 c → hasName P.modules c = true)
    (r k : Nat) : hashN H P' r k m0 = hashN H P r k m0 :=
  hashN_sublist H P P' hs hnd hbin m0
    (fun c hc => by rcases hc with rfl | h; exact hm0; exact hunrelated c h) r k m0 (.inl rfl)

/-- **Moving binaries to other indexes** (the content following): a new binaries table `bins` and an
index map `σ` such that every module finds its old binary at the new index. -/
theorem hash_binary_reindex (H : Bytes → Bytes) (σ : Nat → Nat) (bins : List Binary) (P : Modules)
    (hne : NonEmptyNames P.modules)
    (hbin : ∀ m ∈ P.modules, bins[σ m.binaryIndex]? = P.binaries[m.binaryIndex]?)
    (r k : Nat) (b : Bytes) : hashN H (reindexBinaries σ bins P) r k b = hashN H P r k b := by
  let f : Module → Module := fun m => { m with binaryIndex := σ m.binaryIndex }
  have hne' : NonEmptyNames (P.modules.map f) := by
    intro m hm; obtain ⟨m0, h0, rfl⟩ := List.mem_map.1 hm; exact hne m0 h0
  exact hashN_graphMap H P bins id f (fun _ _ h => h) (.of_same (fun _ => rfl) (fun _ => rfl) fun _ => rfl)
    ⟨fun _ => rfl, fun _ => rfl, fun _ => rfl, fun m hm => by simp only [binaryOf, f, hbin m hm]⟩ hne hne' r k b

theorem hash_binary_reindex_top (H : Bytes → Bytes) (σ : Nat → Nat) (bins : List Binary) (P : Modules)
    (hne : NonEmptyNames P.modules)
    (hbin : ∀ m ∈ P.modules, bins[σ m.binaryIndex]? = P.binaries[m.binaryIndex]?) (b : Bytes) :
    hash H (reindexBinaries σ bins P) b = hash H P b :=
  hash_eq_of_length (List.length_map _) fun r k => hash_binary_reindex H σ bins P hne hbin r k b

/-! ## 2. Locality (every hash function) -/

/-- **Nothing else changes.** Replace the module named `x` by *any* module of the same name: every
module that is not `x` and does not reach `x` (is not a descendant of `x`) keeps its hash. -/
theorem hash_local (H : Bytes → Bytes) (P : Modules) (x : Bytes) (mx' : Module) (hn : mx'.name = x)
    (hx : hasName P.modules x = true) (r k : Nat) (b : Bytes) (hb : b ≠ x) (hnd : ¬ Reach P.modules b x) :
    hashN H (setModule P x mx') r k b = hashN H P r k b :=
  hashN_setModule_away H P x mx' hn r k b ⟨hb, hnd⟩

theorem hash_local_top (H : Bytes → Bytes) (P : Modules) (x : Bytes) (mx' : Module) (hn : mx'.name = x)
    (hx : hasName P.modules x = true) (b : Bytes) (hb : b ≠ x) (hnd : ¬ Reach P.modules b x) :
    hash H (setModule P x mx') b = hash H P b :=
  hash_eq_of_length (List.length_map _) fun r k => hash_local H P x mx' hn hx r k b hb hnd

/-- The ancestors the model computes are reachable (so "does not reach `x`" covers "`x` is not among
`AncestorsOf`" for every bound `r`). -/
theorem ancestors_reachable (G : List Module) (r : Nat) (b a : Bytes) (h : a ∈ ancestorNames G r b) :
    Reach G b a :=
  (hasName_reach_of_mem_ancestorNames h).2

/-! ## 3. Sensitivity (fixed-length hash without a collision on the two pre-images compared) -/

/-- **The edited module.**  Module `x` of `P` is replaced by `mx'`, which differs from it in the
fields the module itself contributes to the pre-image (`EditFacts`: own segments differ, not by a
re-splitting of the same bytes; same dependency edges).  Then the hash of `x` changes. -/
theorem hash_own_fields_sensitive (H : Bytes → Bytes) (n : Nat) (hH : FixedLen H n) (P : Modules) (x : Bytes)
    (mx mx' : Module) (hx : findM P.modules x = some mx) (hedit : EditFacts P mx mx') (r k : Nat)
    (hnc : NoCollisionAt H P (setModule P x mx') r k x) :
    hashN H (setModule P x mx') r (k + 1) x ≠ hashN H P r (k + 1) x := by
  have hn := hedit.name_eq hx
  have hx' := findM_set_self hx hn
  exact hashN_ne_of_own hx hx'
    (.of_fixedLen hH hx hx' (filterShape_of_flt hn hedit.flt) (by rw [hedit.ancestorNames_eq hx]) k)
    hedit.diff hedit.shape hnc

/-- **Single-field mutation, the module itself.**  Changing the initial block, the kind, the binary
type or content, the entrypoint, a params value, a source type or the block-filter query of module
`x` changes the hash of `x`. -/
theorem hash_field_sensitive_self (H : Bytes → Bytes) (n : Nat) (hH : FixedLen H n) (P : Modules) (x : Bytes)
    (mx mx' : Module) (hx : findM P.modules x = some mx) (hedit : FieldEdit P mx mx') (r k : Nat)
    (hnc : NoCollisionAt H P (setModule P x mx') r k x) :
    hashN H (setModule P x mx') r (k + 1) x ≠ hashN H P r (k + 1) x :=
  hash_own_fields_sensitive H n hH P x mx mx' hx hedit.facts r k hnc

/-- **Single-field mutation, every descendant.**  If `x` is among the ancestors of `d`, the same
edits change the hash of `d`. -/
theorem hash_field_sensitive_descendant (H : Bytes → Bytes) (n : Nat) (hH : FixedLen H n) (P : Modules) (x : Bytes)
    (mx mx' : Module) (hx : findM P.modules x = some mx) (hedit : EditFacts P mx mx') (r k : Nat)
    (d : Bytes) (md : Module) (hd : findM P.modules d = some md) (hdx : d ≠ x)
    (hanc : x ∈ ancestorNames P.modules r d)
    (hncx : NoCollisionAt H P (setModule P x mx') r k x)
    (hncd : NoCollisionAt H P (setModule P x mx') r (k + 1) d) :
    hashN H (setModule P x mx') r (k + 2) d ≠ hashN H P r (k + 2) d := by
  have hn := hedit.name_eq hx
  have hxne := hash_own_fields_sensitive H n hH P x mx mx' hx hedit r k hncx
  have hd' := findM_set_other hd hn hdx
  have hanc' := hedit.ancestorNames_eq hx r d
  exact hashN_ne_of_ancestor hd hd' (.of_fixedLen hH hd hd' (filterShape_of_flt hn rfl) (by rw [hanc']) _)
    rfl hanc' hanc hxne hncd

/-- The two previous theorems for the identifier the driver computes (`ModuleHashes().Get`): the
edited module and all its descendants change, under the hypothesis that `H` has no collision on the
old and new pre-image of any module. -/
theorem hash_field_sensitive_top (H : Bytes → Bytes) (n : Nat) (hH : FixedLen H n) (P : Modules) (x : Bytes)
    (mx mx' : Module) (hx : findM P.modules x = some mx) (hedit : FieldEdit P mx mx')
    (hnc : ∀ k b, NoCollisionAt H P (setModule P x mx') P.modules.length k b) :
    hash H (setModule P x mx') x ≠ hash H P x ∧
    ∀ d md, findM P.modules d = some md → d ≠ x → x ∈ ancestorNames P.modules P.modules.length d →
      hash H (setModule P x mx') d ≠ hash H P d := by
  unfold SV.Hash.hash
  rw [show (setModule P x mx').modules.length = P.modules.length from List.length_map _]
  constructor
  · obtain ⟨k, hk⟩ := Nat.exists_eq_add_of_le' (List.length_pos_of_mem (findM_mem hx))
    have := hash_field_sensitive_self H n hH P x mx mx' hx hedit P.modules.length k (hnc k x)
    rwa [← hk] at this
  · intro d md hd hdx hanc
    obtain ⟨k, hk⟩ := Nat.exists_eq_add_of_le' (length_ge_two_of_two_names hd hx hdx)
    have := hash_field_sensitive_descendant H n hH P x mx mx' hx hedit.facts P.modules.length k d md hd hdx hanc
      (hnc k x) (hnc (k + 1) d)
    rwa [← hk] at this

/-- **Editing a shared binary in place**: every module that uses the binary changes its hash
(only the content, or only the type, is edited — changing both at once can be a mere re-splitting of
the same bytes, see `hash_unframed_binary_type`). -/
theorem hash_shared_binary_sensitive (H : Bytes → Bytes) (n : Nat) (hH : FixedLen H n) (P : Modules)
    (bins' : List Binary) (u : Bytes) (mu : Module) (hu : findM P.modules u = some mu)
    (hchg : ((binaryOf ⟨P.modules, bins'⟩ mu).content ≠ (binaryOf P mu).content ∧
             (binaryOf ⟨P.modules, bins'⟩ mu).type = (binaryOf P mu).type) ∨
            ((binaryOf ⟨P.modules, bins'⟩ mu).type ≠ (binaryOf P mu).type ∧
             (binaryOf ⟨P.modules, bins'⟩ mu).content = (binaryOf P mu).content))
    (r k : Nat) (hnc : NoCollisionAt H P ⟨P.modules, bins'⟩ r k u) :
    hashN H ⟨P.modules, bins'⟩ r (k + 1) u ≠ hashN H P r (k + 1) u := by
  have hslots : SameSlotLens H P ⟨P.modules, bins'⟩ r k mu mu :=
    .of_fixedLen (P' := ⟨P.modules, bins'⟩) hH hu hu rfl rfl k
  have key : ∀ (pre : List Bytes) {post : List Bytes} {b' b : Bytes}, b' ≠ b →
      ownSegs ⟨P.modules, bins'⟩ mu = pre ++ b' :: post → ownSegs P mu = pre ++ b :: post →
      hashN H ⟨P.modules, bins'⟩ r (k + 1) u ≠ hashN H P r (k + 1) u :=
    fun _ _ _ _ hne h' h => hashN_ne_of_own hu hu hslots (single_diff hne h' h).1 (single_diff hne h' h).2 hnc
  -- in `ownSegs` the binary type is at position 2, the binary content at position 3
  rcases hchg with ⟨h1, h2⟩ | ⟨h1, h2⟩
  · exact key ((ownSegs P mu).take 3) h1 (by simp only [ownSegs, h2]; rfl) rfl
  · exact key ((ownSegs P mu).take 2) h1 (by simp only [ownSegs, h2]; rfl) rfl

/-- … and every module that does not use the edited binary but has an ancestor whose hash changed. -/
theorem hash_shared_binary_sensitive_descendant (H : Bytes → Bytes) (n : Nat) (hH : FixedLen H n) (P : Modules)
    (bins' : List Binary) (d : Bytes) (md : Module) (hd : findM P.modules d = some md)
    (hsame : binaryOf ⟨P.modules, bins'⟩ md = binaryOf P md)
    (r k : Nat) (a : Bytes) (ha : a ∈ ancestorNames P.modules r d)
    (hane : hashN H ⟨P.modules, bins'⟩ r k a ≠ hashN H P r k a)
    (hnc : NoCollisionAt H P ⟨P.modules, bins'⟩ r k d) :
    hashN H ⟨P.modules, bins'⟩ r (k + 1) d ≠ hashN H P r (k + 1) d :=
  hashN_ne_of_ancestor hd hd (.of_fixedLen (P' := ⟨P.modules, bins'⟩) hH hd hd rfl rfl k)
    (by simp only [ownSegs, hsame]) rfl ha hane hnc

/-- **Number or kinds of inputs** (no assumption on the hash lengths) — the provable part of the
clause "ordered inputs".

Full statement of the property (FALSE on the code, hence `_partial`):
`mx'.inputs ≠ mx.inputs → hashN H (setModule P x {mx with inputs := mx'.inputs}) r (k+1) x ≠ hashN H P r (k+1) x`.
What is missing, each with a kernel-checked counterexample below and a replayed witness on the real
code: the order of inputs of the same kind (`hash_blind_to_input_order`, class
`C06/input-permutation`), the mode of a store input (`hash_blind_to_store_mode`,
`C06/store-mode-get-vs-deltas`), which already-present ancestor a map input points at
(`C06/input-retarget`, harness only), and input lists that part at inputs of the same kind whose
values re-split the same bytes (`hash_unframed_params_value`, `hash_unframed_source_type`).
Changes of a single params value or source type in place are covered by `hash_field_sensitive_self`.

What is proved:  The inputs of `x` are
replaced by a list that, after a common prefix, continues with an input of another kind, or stops
while the old one goes on, or goes on while the old one stops.  Then the hash of `x` changes —
*whatever* happens to its ancestors.  (Two lists that part at inputs of the **same** kind with
different values can collide: `hash_unframed_source_type`.) -/
theorem hash_inputs_sensitive_partial (H : Bytes → Bytes) (P : Modules) (x : Bytes) (mx : Module)
    (hx : findM P.modules x = some mx) (C R R' : List Input) (hin : mx.inputs = C ++ R) (hd : Diverge R R')
    (r k : Nat) (hnc : NoCollisionAt H P (setModule P x { mx with inputs := C ++ R' }) r k x) :
    hashN H (setModule P x { mx with inputs := C ++ R' }) r (k + 1) x ≠ hashN H P r (k + 1) x := by
  have hx' := findM_set_self (mx' := { mx with inputs := C ++ R' }) hx (show mx.name = x from findM_name hx)
  intro heq
  refine enc_ne_of_diverge (segsOf P r (hashN H P r k) mx)
    (segsOf (setModule P x { mx with inputs := C ++ R' }) r
      (hashN H (setModule P x { mx with inputs := C ++ R' }) r k) { mx with inputs := C ++ R' })
    rfl rfl rfl rfl C R R' ?_ rfl hd (enc_eq_of_hashN_eq hx hx' hnc heq).symm
  show encInputs mx.inputs = _
  rw [hin]

/-- **Injective `H`, the edited module itself.**  With `H` merely injective (no length assumption;
`H := id` is an instance, see the example below) the hash of the edited module changes, provided `x`
is not its own ancestor (the graph is acyclic at `x`; `NewModuleGraph` rejects cycles). -/
theorem hash_self_sensitive_injective (H : Bytes → Bytes) (hH : Function.Injective H) (P : Modules) (x : Bytes)
    (mx mx' : Module) (hx : findM P.modules x = some mx) (hedit : EditFacts P mx mx')
    (hacyc : ¬ Reach P.modules x x) (r k : Nat) :
    hashN H (setModule P x mx') r (k + 1) x ≠ hashN H P r (k + 1) x := by
  have hn := hedit.name_eq hx
  -- what `x` reaches does not reach `x`: it keeps its hash
  have hkeep : ∀ a, Reach P.modules x a → hashN H (setModule P x mx') r k a = hashN H P r k a :=
    fun a ha => hashN_setModule_away H P x mx' hn r k a ⟨fun e => hacyc (e ▸ ha), fun h => hacyc (ha.append h)⟩
  have hlen : ∀ f, mx.filter = some f →
      (hashN H (setModule P x mx') r k f.module).length = (hashN H P r k f.module).length := by
    intro f hf
    cases hf' : findM P.modules f.module with
    | none =>
      rw [hashN_of_findM_none hf', hashN_of_findM_none]
      show findM (P.modules.map (putModule x mx')) f.module = none
      rw [findM_putModule _ hn, hf']
      rfl
    | some _ =>
      rw [hkeep _ (.step (succs_of_find hx ▸ mem_edgeTargets_filter hf (hasName_of_findM hf')))]
  refine hashN_ne_of_own hx (findM_set_self hx hn) ⟨?_, ?_⟩ hedit.diff hedit.shape
    (NoCollisionAt.of_injective hH _ _ _ _ _)
  · have := congrArg (Option.map fun t => (hashN H (setModule P x mx') r k t).length) hedit.flt
    rw [Option.map_map, Option.map_map] at this
    refine this.trans ?_
    cases hf : mx.filter with
    | none => simp only [Option.map_none]
    | some f => simp only [Option.map_some, Function.comp_apply, hlen f hf]
  · rw [hn, findM_name hx, hedit.ancestorNames_eq hx,
      List.map_congr_left fun a ha => hkeep a (hasName_reach_of_mem_ancestorNames ha).2]

/-! ## 4. What the pre-image does NOT capture (the clause "ordered inputs" is false on the code)

Known defect F14: `inputValue` returns `""` for map and store inputs ("accounted for in the
`AncestorOf()` tree"), and `AncestorsOf` lists the ancestors in module-list order, not in input
order.  So the pre-image records only the *kinds* of map/store inputs and the *set* of ancestors. -/

/-- **F14, store mode.** Switching a store input between `get` and `deltas` (any mode number) changes
what the module reads, but no hash of the package: for every hash function, every module. -/
theorem hash_blind_to_store_mode (H : Bytes → Bytes) (P : Modules) (x : Bytes) (mx : Module)
    (hx : findM P.modules x = some mx) (pre post : List Input) (s : Bytes) (mode mode' : Nat)
    (hin : mx.inputs = pre ++ .store s mode :: post) (r k : Nat) (b : Bytes) :
    hashN H (setModule P x { mx with inputs := pre ++ .store s mode' :: post }) r k b = hashN H P r k b :=
  hashN_setInputs_sameView H P x mx hx _
    (by rw [hin]; simp only [encInputs_append, encInputs_cons]; rfl)
    (by unfold queryString; simp only [hin, firstParams_skip pre post (.store s mode') rfl, firstParams_skip pre post (.store s mode) rfl])
    (fun t => by simp only [hin, List.map_append, List.map_cons, inputRef]) r k b

/-- the two module definitions of `hash_blind_to_store_mode` are different (get = 1, deltas = 2) -/
example (mx : Module) (pre post : List Input) (s : Bytes) (hin : mx.inputs = pre ++ .store s 1 :: post) :
    ({ mx with inputs := pre ++ .store s 2 :: post } : Module) ≠ mx := by
  intro e
  have := congrArg Module.inputs e
  simp [hin] at this

/-- **F14, input order.** Swapping two neighbouring inputs of the same kind (two map inputs, or two
store inputs — `encInput` does not distinguish them) hands the module its arguments in another
order, but changes no hash: for every hash function, every module. -/
theorem hash_blind_to_input_order (H : Bytes → Bytes) (P : Modules) (x : Bytes) (mx : Module)
    (hx : findM P.modules x = some mx) (pre post : List Input) (i j : Input)
    (hi : isModuleInput i = true) (hj : isModuleInput j = true) (hsame : encInput i = encInput j)
    (hin : mx.inputs = pre ++ i :: j :: post) (r k : Nat) (b : Bytes) :
    hashN H (setModule P x { mx with inputs := pre ++ j :: i :: post }) r k b = hashN H P r k b :=
  hashN_setInputs_sameView H P x mx hx _
    (by rw [hin]; simp only [encInputs_append, encInputs_cons, hsame])
    (by unfold queryString; simp only [hin, firstParams_swap pre post i j hi hj])
    (fun t => by simp only [hin, List.map_append, List.map_cons, List.mem_append, List.mem_cons, or_left_comm]) r k b

/-- Concrete instance (the witness of DESIGN §9/F14): `X(A, B)` and `X(B, A)` are different
definitions and get the same identifier. -/
example : ∀ (H : Bytes → Bytes) (r k : Nat) (b : Bytes),
    let A : Module := ⟨[97], 1, .map [], 0, [97], [.source [84]], none⟩
    let B : Module := ⟨[98], 1, .map [], 0, [98], [.source [85]], none⟩
    let X : Module := ⟨[120], 1, .map [], 0, [120], [.map [97], .map [98]], none⟩
    let P : Modules := ⟨[A, B, X], [⟨[119], [0, 1, 2]⟩]⟩
    hashN H (setModule P [120] { X with inputs := [.map [98], .map [97]] }) r k b = hashN H P r k b :=
  fun H r k b => hash_blind_to_input_order H _ [120] _ rfl [] [] (.map [97]) (.map [98]) rfl rfl rfl rfl r k b

/-! ### The concatenation has no framing

`hashModule` writes strings one after the other without lengths or separators.  Different module
definitions can therefore produce the same bytes. -/

/-- A params value can swallow the following source input: `[params a, source t]` and
`[params (a ++ "source" ++ t)]` (one input less!) give every module the same hash.  Both
definitions pass `ValidateModules`. -/
theorem hash_unframed_params_value (H : Bytes → Bytes) (P : Modules) (x : Bytes) (mx : Module)
    (hx : findM P.modules x = some mx) (a t : Bytes) (post : List Input)
    (hin : mx.inputs = .params a :: .source t :: post)
    (hq : queryString { mx with inputs := .params (a ++ lblSource ++ t) :: post } = queryString mx)
    (r k : Nat) (b : Bytes) :
    hashN H (setModule P x { mx with inputs := .params (a ++ lblSource ++ t) :: post }) r k b = hashN H P r k b :=
  hashN_setInputs_sameView H P x mx hx _
    (by rw [hin]; simp only [encInputs_cons, encInput, List.append_assoc]) hq
    (fun t' => by simp only [hin, List.map_cons, inputRef, List.mem_cons, or_self_left]) r k b

/-- The same with two source inputs: `[source t, source u]` and `[source (t ++ "source" ++ u)]`. -/
theorem hash_unframed_source_type (H : Bytes → Bytes) (P : Modules) (x : Bytes) (mx : Module)
    (hx : findM P.modules x = some mx) (t u : Bytes) (pre post : List Input)
    (hin : mx.inputs = pre ++ .source t :: .source u :: post)
    (hq : queryString { mx with inputs := pre ++ .source (t ++ lblSource ++ u) :: post } = queryString mx)
    (r k : Nat) (b : Bytes) :
    hashN H (setModule P x { mx with inputs := pre ++ .source (t ++ lblSource ++ u) :: post }) r k b =
      hashN H P r k b :=
  hashN_setInputs_sameView H P x mx hx _
    (by rw [hin]; simp only [encInputs_append, encInputs_cons, encInput, List.append_assoc]) hq
    (fun t' => by simp only [hin, List.map_append, List.map_cons, inputRef, List.mem_append, List.mem_cons, or_self_left])
    r k b

/-- Binary type and content are adjacent and unframed: type `"wa"` + content `"sm\x01"` and type
`"was"` + content `"m\x01"` are different binaries with the same identifier. -/
theorem hash_unframed_binary_type :
    let m : Module := ⟨[120], 1, .map [], 0, [120], [.source [84]], none⟩
    let P₁ : Modules := ⟨[m], [⟨[119, 97], [115, 109, 1]⟩]⟩
    let P₂ : Modules := ⟨[m], [⟨[119, 97, 115], [109, 1]⟩]⟩
    P₁ ≠ P₂ ∧ ∀ H : Bytes → Bytes, hash H P₂ [120] = hash H P₁ [120] :=
  ⟨by decide +kernel, fun _ => rfl⟩

/-- Binary content and the inputs are unframed too: code `X` with inputs `[params "inputs", source T]`
and code `X ++ "inputsparams"` with inputs `[source T]` get the same identifier (the label
`"inputs"` and the input kind `"params"` are read from the end of the code). -/
theorem hash_unframed_binary_content :
    let m₁ : Module := ⟨[120], 1, .map [], 0, [120], [.params lblInputs, .source [84]], none⟩
    let m₂ : Module := ⟨[120], 1, .map [], 0, [120], [.source [84]], none⟩
    let P₁ : Modules := ⟨[m₁], [⟨[119], [7, 8]⟩]⟩
    let P₂ : Modules := ⟨[m₂], [⟨[119], [7, 8] ++ lblInputs ++ lblParams⟩]⟩
    P₁ ≠ P₂ ∧ ∀ H : Bytes → Bytes, hash H P₂ [120] = hash H P₁ [120] :=
  ⟨by decide +kernel, fun _ => rfl⟩

/-! ## 5. Non-vacuity: the hypotheses are satisfiable by concrete non-trivial instances -/

/-- a fixed-length "hash": pad with zeros / truncate to `N` bytes -/
def padH (N : Nat) (b : Bytes) : Bytes := (b ++ List.replicate N 0).take N

theorem padH_fixedLen (N : Nat) : FixedLen (padH N) N := by
  intro b; simp [padH]

/- the example package `exP`: `a(source T)`, `b(map a)`, `s(store, source T)`, `c(params, map b, store s get)` -/
def exA : Module := ⟨[97], 1, .map [], 0, [97], [.source [84]], none⟩
def exB : Module := ⟨[98], 1, .map [], 0, [98], [.map [97]], none⟩
def exS : Module := ⟨[115], 1, .store 1 [], 0, [115], [.source [84]], none⟩
def exC : Module := ⟨[99], 5, .map [], 0, [99], [.params [118], .map [98], .store [115] 1], none⟩
def exP : Modules := ⟨[exA, exB, exS, exC], [⟨[119], [0, 1, 2]⟩]⟩

/-- `hash_field_sensitive_self` / `_descendant`: the hypotheses hold for `padH 100`, editing the
initial block of `a`; the conclusions say the hashes of `a` and of its descendant `b` change. -/
example : hashN (padH 100) (setModule exP [97] { exA with initialBlock := 2 }) 2 1 [97] ≠ hashN (padH 100) exP 2 1 [97] :=
  hash_field_sensitive_self (padH 100) 100 (padH_fixedLen 100) exP [97] exA _ rfl
    (.initialBlock exA 2 (by decide) (by decide) (by decide)) 2 0 (by unfold NoCollisionAt; decide +kernel)

example : hashN (padH 100) (setModule exP [97] { exA with initialBlock := 2 }) 2 2 [98] ≠ hashN (padH 100) exP 2 2 [98] :=
  hash_field_sensitive_descendant (padH 100) 100 (padH_fixedLen 100) exP [97] exA _ rfl
    (FieldEdit.initialBlock exA 2 (by decide) (by decide) (by decide)).facts 2 0 [98] exB rfl (by decide) (by decide +kernel)
    (by unfold NoCollisionAt; decide +kernel) (by unfold NoCollisionAt; decide +kernel)

/-- `hash_self_sensitive_injective` with `H := id` (injective): editing the entrypoint of `a`. -/
example : hashN id (setModule exP [97] { exA with entrypoint := [122] }) 4 1 [97] ≠ hashN id exP 4 1 [97] :=
  hash_self_sensitive_injective id (fun _ _ h => h) exP [97] exA _ rfl
    (FieldEdit.entrypoint exA [122] (by decide)).facts
    (Reach.not_of_succs_nil (by decide +kernel)) 4 0

/-- `hash_inputs_sensitive_partial` with `H := id`: `c` loses its store input. -/
example : hashN id (setModule exP [99] { exC with inputs := [.params [118], .map [98]] ++ [] }) 4 1 [99] ≠
    hashN id exP 4 1 [99] :=
  hash_inputs_sensitive_partial id exP [99] exC rfl [.params [118], .map [98]] [.store [115] 1] [] rfl
    (.fewer _ _ (by decide)) 4 0 (NoCollisionAt.of_injective (fun _ _ h => h) _ _ _ _ _)

/-- `hash_rename` / `hash_alias_import`: the side conditions hold for `exP` and the prefix `p:`. -/
example : RenameOK (withPrefix [112]) exP where
  inj := withPrefix_inj [112]
  nonempty := by unfold NonEmptyNames; decide +kernel
  nonempty' := by unfold NonEmptyNames; decide +kernel

example : ImportOK [112] exP ⟨[⟨[122], 1, .map [], 0, [122], [.map (withPrefix [112] [98])], none⟩], [⟨[119], [9]⟩]⟩ where
  nonempty := by unfold NonEmptyNames; decide +kernel
  fresh := by
    intro d hd t
    simp only [List.mem_cons, List.mem_nil_iff, or_false] at hd
    subst hd
    simp [withPrefix]
  nodup := by decide +kernel

/-- `hash_local`: `s` does not reach `a`; conclusion instance. -/
example (H : Bytes → Bytes) (r k : Nat) :
    hashN H (setModule exP [97] { exA with entrypoint := [122] }) r k [115] = hashN H exP r k [115] :=
  hash_local H exP [97] _ rfl (by decide +kernel) r k [115] (by decide)
    (Reach.not_of_succs_nil (by decide +kernel))

/-- `hash_binary_reindex`: move the binary of `exP` to index 2 of a bigger table. -/
example (H : Bytes → Bytes) (b : Bytes) :
    hash H (reindexBinaries (fun _ => 2) [⟨[1], [1]⟩, ⟨[2], []⟩, ⟨[119], [0, 1, 2]⟩] exP) b = hash H exP b :=
  hash_binary_reindex_top H _ _ exP (by unfold NonEmptyNames; decide +kernel) (by decide +kernel) b

end SV.C06
