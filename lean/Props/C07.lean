import Props.C01
/-!
# C07 — Results do not depend on which cache files exist

Property: *a request that runs on top of any subset of the cache files left by earlier runs over the same
modules completes and returns the same outputs as on an empty cache; the files it leaves behind are those
of a clean run.*

Rendering on the linear specification (`Model/Linear.lean`): a cache is a partial function
`(module, block) ↦ content` (`Cache`); the files of a run are `cacheOf run.blocks`, a subset of them is a
selection `sel`; "on an empty cache" is the run without cache, `runBlocks` (`empty_cache_is_linear`).
All statements are corollaries of `SV.C01.cache_from_other_run` / `runBlocksC_eq_of_agrees`
(`Lemmas/Linear.lean`), and hold for all worlds with distinct module names (guaranteed by
`manifest.ValidateModules`: "duplicate module name"), all start states satisfying the store invariant
`LInv` (the empty state does; preserved by every block), all block ranges and all selections.

* `empty_cache_is_linear` — the all-false selection is the empty cache and the run on it is the linear run.
* `subset_irrelevant`, `subset_irrelevant_other_run` — the run is the same on any two subsets of the files.
* `leaves_clean_files`, `leaves_all_files` — the per-block outputs and logs a run records (hence the files
  it writes) are those of the clean run, whatever subset it started on.
* `Valid`, `subset_valid`, `union_valid`, `files_valid`, `valid_eq_clean`, `leaves_valid` — the same in the vocabulary
  of DESIGN.md §6: a cache is *valid* for a run when every entry it holds is the entry of the clean run;
  any subset of a valid cache and any union of valid caches (files of several earlier runs) is valid, a
  run on a valid cache is the clean run, and what it leaves behind is valid again.
* `client_unaffected` — the client's view (`linearSpec`) on any subset of the files of any earlier request
  for the same output module.

**NOT covered here**: store snapshot files (full and partial `kv` files) and the state a tier2 job loads
from them — covered at the store level by C02 (squash = sequential), C10 (save/load round trip, a
truncated file is rejected), C12/C13 (which files a plan needs), and end to end by the harness `vh_c07`
(all subsets of the real files), but not composed with these theorems (squashed `set_sum` stores equal
sequential ones only up to their `set:`/`sum:` tag, known finding `C01/set_sum-tag-visible-in-deltas`);
half-written files (atomicity of the object store's rename, part of the trusted base); cached outputs
written by requests for a *different* output module (see `Props/C01.lean`).
-/
namespace SV.C07
open SV SV.Lin

/-- the empty cache: no file exists -/
def emptyCache : Cache := fun _ _ => none

/-- **"the same outputs as on an empty cache"** — what "empty cache" means: selecting none of the files
of any run gives the empty cache, and `RunModule` with the empty cache is the plain execution, for every
world, range and state (by unfolding; no hypothesis). -/
theorem empty_cache_is_linear (w : World) (md n b : Nat) (st : LState) (blocks : List (Nat × BlockOut)) :
    cacheOf blocks (fun _ _ => false) = emptyCache ∧
    runBlocksC w md emptyCache n b st = runBlocks w md n b st := by
  constructor
  · funext name b'; rfl
  · exact runBlocksC_empty (fun _ _ => rfl) n b st

/-- **"… left by earlier runs over the same modules"** — the files may be those of another run from the
same start (longer: an earlier, larger request; shorter: a cancelled or crashed one, `n'` arbitrary): any
two subsets of them give the same run, the empty-cache run. -/
theorem subset_irrelevant_other_run (w : World) (md : Nat) (hn : (w.map (·.name)).Nodup) (st : LState)
    (hi : LInv st) (n n' b : Nat) (sel sel' : Bytes → Nat → Bool) :
    runBlocksC w md (cacheOf (runBlocks w md n' b st).blocks sel) n b st =
      runBlocksC w md (cacheOf (runBlocks w md n' b st).blocks sel') n b st ∧
    runBlocksC w md (cacheOf (runBlocks w md n' b st).blocks sel) n b st =
      runBlocksC w md emptyCache n b st := by
  rw [C01.cache_from_other_run w md hn st hi n n' b sel, C01.cache_from_other_run w md hn st hi n n' b sel',
    runBlocksC_empty (c := emptyCache) (fun _ _ => rfl) n b st]
  exact ⟨rfl, rfl⟩

/-- **"runs on top of any subset of the cache files … returns the same outputs as on an empty cache"** —
for any two subsets `sel`, `sel'` of the files of the run, the cached runs are equal (both equal the
empty-cache run): final stores, per-block outputs, logs and failure block. -/
theorem subset_irrelevant (w : World) (md : Nat) (hn : (w.map (·.name)).Nodup) (st : LState) (hi : LInv st)
    (n b : Nat) (sel sel' : Bytes → Nat → Bool) :
    runBlocksC w md (cacheOf (runBlocks w md n b st).blocks sel) n b st =
      runBlocksC w md (cacheOf (runBlocks w md n b st).blocks sel') n b st ∧
    runBlocksC w md (cacheOf (runBlocks w md n b st).blocks sel) n b st =
      runBlocksC w md emptyCache n b st :=
  subset_irrelevant_other_run w md hn st hi n n b sel sel'

/-- **"The files it leaves behind are equivalent to those of a clean run"** — the per-block outputs and
operation logs recorded by a run on any subset of the files (what it writes to the output files) are
those recorded by the clean run; so is the store state it ends in and the failure block. -/
theorem leaves_clean_files (w : World) (md : Nat) (hn : (w.map (·.name)).Nodup) (st : LState) (hi : LInv st)
    (n n' b : Nat) (sel : Bytes → Nat → Bool) :
    (runBlocksC w md (cacheOf (runBlocks w md n' b st).blocks sel) n b st).blocks =
      (runBlocks w md n b st).blocks ∧
    (runBlocksC w md (cacheOf (runBlocks w md n' b st).blocks sel) n b st).st.stores =
      (runBlocks w md n b st).st.stores ∧
    (runBlocksC w md (cacheOf (runBlocks w md n' b st).blocks sel) n b st).failed =
      (runBlocks w md n b st).failed := by
  rw [C01.cache_from_other_run w md hn st hi n n' b sel]
  exact ⟨rfl, rfl, rfl⟩

/-- **"The files it leaves behind …"** — in terms of files: after a run on any subset `sel` of the files,
the complete set of files of the run (every selection `sel2` of it) is the clean run's, entry by entry:
evicted or lost files are written back identically. -/
theorem leaves_all_files (w : World) (md : Nat) (hn : (w.map (·.name)).Nodup) (st : LState) (hi : LInv st)
    (n b : Nat) (sel sel2 : Bytes → Nat → Bool) :
    cacheOf (runBlocksC w md (cacheOf (runBlocks w md n b st).blocks sel) n b st).blocks sel2 =
      cacheOf (runBlocks w md n b st).blocks sel2 := by
  rw [C01.cached_eq_executed w md hn st hi n b sel]

/-! ### the same with an explicit validity predicate -/

/-- a cache is **valid** for the run of `n` blocks from block `b` and state `st`: every entry it holds for
a block of the range is the entry of that block in the clean run (it may hold any subset of them, and
anything at all outside the range) -/
def Valid (w : World) (md : Nat) (c : Cache) (n b : Nat) (st : LState) : Prop :=
  Agrees c (runBlocks w md n b st).blocks b n

/-- **"any subset of the cache files"** — every subset of a valid cache is valid -/
theorem subset_valid (w : World) (md : Nat) (c c' : Cache) (n b : Nat) (st : LState)
    (h : Valid w md c n b st) (hs : SubCache c' c) : Valid w md c' n b st := Agrees.subset h hs

/-- **"left by earlier runs"** (several of them) — the union of valid caches is valid, whichever file wins
where both have one -/
theorem union_valid (w : World) (md : Nat) (c1 c2 : Cache) (n b : Nat) (st : LState)
    (h1 : Valid w md c1 n b st) (h2 : Valid w md c2 n b st) : Valid w md (unionCache c1 c2) n b st :=
  Agrees.union h1 h2

/-- the files of any run from the same start, any subset of them, and the empty cache are valid -/
theorem files_valid (w : World) (md : Nat) (n n' b : Nat) (st : LState) (sel : Bytes → Nat → Bool) :
    Valid w md (cacheOf (runBlocks w md n' b st).blocks sel) n b st ∧ Valid w md emptyCache n b st :=
  ⟨cacheOf_other_agrees w md n n' b st sel, fun _ _ _ _ => Or.inl rfl⟩

/-- **"completes and returns the same outputs as on an empty cache"** — a run on a valid cache is the
clean run. -/
theorem valid_eq_clean (w : World) (md : Nat) (hn : (w.map (·.name)).Nodup) (c : Cache) (n b : Nat)
    (st : LState) (hi : LInv st) (h : Valid w md c n b st) :
    runBlocksC w md c n b st = runBlocks w md n b st := runBlocksC_eq_of_agrees hn n b st hi h

/-- **"The files it leaves behind …"** — a run on a valid cache leaves valid files: the old cache
completed by (any selection of) what the run recorded is valid again, so the next run is clean too. -/
theorem leaves_valid (w : World) (md : Nat) (hn : (w.map (·.name)).Nodup) (c : Cache) (n b : Nat)
    (st : LState) (hi : LInv st) (h : Valid w md c n b st) (sel : Bytes → Nat → Bool) :
    Valid w md (unionCache c (cacheOf (runBlocksC w md c n b st).blocks sel)) n b st := by
  rw [valid_eq_clean w md hn c n b st hi h]
  exact Agrees.union h (cacheOf_agrees _ sel b n)

/-- **client level** — the request's answer (`linearSpec`) on any two subsets of the files left by the
linear run of any earlier request for the same output module (any `start'`, `stop'`) is the same, and is
the empty-cache answer. -/
theorem client_unaffected (w : World) (md : Nat) (hn : (w.map (·.name)).Nodup) (output : Bytes)
    (start stop start' stop' : Nat) (sel sel' : Bytes → Nat → Bool) :
    linearSpecC w md (cacheOf (linearRun (usedMods w output) md start' stop').blocks sel) output start stop =
      linearSpecC w md (cacheOf (linearRun (usedMods w output) md start' stop').blocks sel') output start stop ∧
    linearSpecC w md (cacheOf (linearRun (usedMods w output) md start' stop').blocks sel) output start stop =
      linearSpecC w md emptyCache output start stop := by
  have he : linearSpecC w md emptyCache output start stop = linearSpec w md output start stop :=
    linearSpecC_eq_of (runBlocksC_empty (fun _ _ => rfl) _ _ _)
  rw [C01.linearSpecC_earlier_request w md hn output start stop start' stop' sel,
    C01.linearSpecC_earlier_request w md hn output start stop start' stop' sel', he]
  exact ⟨rfl, rfl⟩

/-! ## Non-vacuity (the world of `Props/C01.lean`: map `m1`, store `s1` add/int64, map `m2`) -/

open SV.C01 in
example : (demoW.map (·.name)).Nodup := by decide +kernel

-- the subsets differ: `selStore` keeps the store's log of block 1 and drops `m1`'s output, `selB1` keeps both
set_option maxRecDepth 100000 in
open SV.C01 in
example : (cacheOf (runBlocks demoW 10 3 0 ⟨[]⟩).blocks selStore nM1 1).isNone = true ∧
    (cacheOf (runBlocks demoW 10 3 0 ⟨[]⟩).blocks selB1 nM1 1).isSome = true ∧
    (cacheOf (runBlocks demoW 10 3 0 ⟨[]⟩).blocks selStore nS1 1).isSome = true ∧
    (cacheOf (runBlocks demoW 10 3 0 ⟨[]⟩).blocks selB1 nS1 2).isNone = true := by decide +kernel

-- the runs on the two subsets, evaluated through the cache branches, record the same files
set_option maxRecDepth 100000 in
open SV.C01 in
example :
    (runBlocksC demoW 10 (cacheOf (runBlocks demoW 10 3 0 ⟨[]⟩).blocks selStore) 3 0 ⟨[]⟩).blocks.map
        (fun p => (p.1, p.2.outs)) =
      (runBlocksC demoW 10 (cacheOf (runBlocks demoW 10 3 0 ⟨[]⟩).blocks selB1) 3 0 ⟨[]⟩).blocks.map
        (fun p => (p.1, p.2.outs)) ∧
    (runBlocksC demoW 10 (cacheOf (runBlocks demoW 10 3 0 ⟨[]⟩).blocks selStore) 3 0 ⟨[]⟩).blocks.map
        (fun p => p.2.logs) =
      (runBlocksC demoW 10 (cacheOf (runBlocks demoW 10 3 0 ⟨[]⟩).blocks selB1) 3 0 ⟨[]⟩).blocks.map
        (fun p => p.2.logs) := by decide +kernel

-- a cache that is NOT valid changes the result (so `Valid` is a real hypothesis): a forged output of `m1`
set_option maxRecDepth 100000 in
open SV.C01 in
example : ((runBlocksC demoW 10 (fun name b => if name == nM1 ∧ b = 1 then some (.out [1]) else none) 2 0 ⟨[]⟩).blocks.map
    (fun p => outputOf nM2 p.2.outs)).getLast? ≠ some (some m2AtBlock1) := by decide +kernel

-- instances
open SV.C01 in
example : runBlocksC demoW 10 (cacheOf (runBlocks demoW 10 3 0 ⟨[]⟩).blocks selStore) 3 0 ⟨[]⟩ =
    runBlocksC demoW 10 (cacheOf (runBlocks demoW 10 3 0 ⟨[]⟩).blocks selB1) 3 0 ⟨[]⟩ :=
  (subset_irrelevant demoW 10 (by decide) ⟨[]⟩ linv_empty 3 0 selStore selB1).1
open SV.C01 in
example : Valid demoW 10 (cacheOf (runBlocks demoW 10 7 0 ⟨[]⟩).blocks selB1) 3 0 ⟨[]⟩ :=
  (files_valid demoW 10 3 7 0 ⟨[]⟩ selB1).1

end SV.C07
