import Lemmas.Store
/-!
# C08 — Store reads honour ordinals: get_first/get_last/get_at/has_* match the deltas

All theorems are about one block executed on a store (`execBlock` = the host calls recorded in call
order, then `Flush`), for **every** configuration, **every** value semantics `sem` of the numeric
policies (so for every policy and value type), **every** pre-block state that `NewCall` can leave
(`Clean`: no pending deltas, distinct keys, consistent size) and **every** list of calls with arbitrary
(non-monotonic, repeated) ordinals, every key and every query ordinal.  A block that ends in an error
ends the request; the theorems are about blocks that complete (`= .ok post`).
-/
namespace SV.C08
open SV

variable {cfg : Cfg} {sem : Sem} {pre post : Store} {calls : List Op}

/-- "Within a block, a store's operations take effect in stable ordinal order": `Flush` folds
`flushOp` over the log sorted by ordinal (this is the definition of `flush`), the sorted log is ordered
by ordinal, is a permutation of the calls, and operations with the same ordinal keep their call order. -/
theorem ops_in_stable_ordinal_order (h : Clean pre) (hp : execBlock cfg sem pre calls = .ok post) :
    post.ops = sortOps (pre.ops ++ calls) ∧ OrdSorted post.ops ∧ post.ops.Perm (pre.ops ++ calls) ∧
    ∀ n, post.ops.filter (fun a => a.ord == n) = (pre.ops ++ calls).filter (fun a => a.ord == n) := by
  obtain ⟨b, _, i2⟩ := execBlock_inv h hp
  rw [i2]
  exact ⟨rfl, sortOps_sorted _, sortOps_perm _, sortOps_stable _⟩

theorem flush_is_fold_over_sorted_log (s : Store) :
    flush cfg sem s = (sortOps s.ops).foldlM (flushOp cfg sem) { s with ops := sortOps s.ops } := rfl

/-- The deltas reported for the block are in non-decreasing ordinal order. -/
theorem deltas_sorted (h : Clean pre) (hp : execBlock cfg sem pre calls = .ok post) :
    post.deltas.Pairwise (fun a b => a.ord ≤ b.ord) := by
  obtain ⟨b, i1, _⟩ := execBlock_inv h hp
  exact i1.sorted

/-- "The deltas reported for the block, applied in order to the pre-block content, give the post-block
content" -/
theorem deltas_give_post (h : Clean pre) (hp : execBlock cfg sem pre calls = .ok post) (k : Bytes) :
    look (applyDeltas pre.kv post.deltas) k = look post.kv k := by
  obtain ⟨b, i1, _⟩ := execBlock_inv h hp
  rw [look_applyDeltas, i1.kvpost]

/-- "… and each delta's old value is the value just before it" (a CREATE delta finds the key absent). -/
theorem delta_old_value (h : Clean pre) (hp : execBlock cfg sem pre calls = .ok post)
    (l1 : List Delta) (d : Delta) (l2 : List Delta) (hd : post.deltas = l1 ++ d :: l2) :
    look (applyDeltas pre.kv l1) d.key = (if d.op = .create then none else some d.old) := by
  obtain ⟨b, i1, _⟩ := execBlock_inv h hp
  have hw := ((chain_append l1 (d :: l2) _).1 (hd ▸ i1.chain)).2.1
  rw [look_applyDeltas]
  unfold WFd at hw
  cases hop : d.op <;> simp [hop] at hw ⊢ <;> exact hw

/-- "get_first returns the value before the block" -/
theorem getFirst_spec (h : Clean pre) (hp : execBlock cfg sem pre calls = .ok post) (k : Bytes) :
    post.getFirst k = look pre.kv k := by
  obtain ⟨b, i1, _⟩ := execBlock_inv h hp
  exact i1.getFirst k

/-- "get_last the value after it" -/
theorem getLast_spec (h : Clean pre) (hp : execBlock cfg sem pre calls = .ok post) (k : Bytes) :
    post.getLast k = look post.kv k := by
  obtain ⟨b, i1, _⟩ := execBlock_inv h hp
  exact i1.getLast k

/-- "get_at(ord) the value after all operations with ordinal ≤ ord": the pre-block content with
exactly the deltas of ordinal `≤ ord` applied. -/
theorem getAt_spec (h : Clean pre) (hp : execBlock cfg sem pre calls = .ok post) (ord : Nat) (k : Bytes) :
    post.getAt ord k = look (applyDeltas pre.kv (post.deltas.filter (fun d => decide (d.ord ≤ ord)))) k := by
  obtain ⟨b, i1, _⟩ := execBlock_inv h hp
  rw [i1.getAt, look_applyDeltas]

/-- "has_first, has_last and has_at answer exactly whether the corresponding get finds the key"
(these three hold for every store state, not only after a completed block). -/
theorem hasFirst_iff (s : Store) (k : Bytes) : s.hasFirst k = (s.getFirst k).isSome :=
  hasFirstIn_eq _ _ _

theorem hasLast_iff (s : Store) (k : Bytes) : s.hasLast k = (s.getLast k).isSome :=
  hasLastIn_eq _ _ _

theorem hasAt_iff (s : Store) (ord : Nat) (k : Bytes) : s.hasAt ord k = (s.getAt ord k).isSome :=
  walkBackHas_eq _ _ _ _

/-- The exported readers only strip the 4-byte tag of `set_sum` stores from a found value; they find
the key exactly when the raw reader does. -/
theorem stripTag_isSome (v : Option Bytes) : (stripTag cfg v).isSome = v.isSome := by
  unfold stripTag
  cases v with
  | none => rfl
  | some b => dsimp only; split <;> rfl

/-! ### Non-vacuity: a concrete block with repeated, non-monotonic ordinals and a deletion -/

def demoCfg : Cfg := ⟨.set, .bytes, 100, 1000, 100⟩
def demoSem : Sem := fun _ _ v => .ok v
def demoCalls : List Op :=
  [⟨.set, 3, [97], [1]⟩, ⟨.set, 1, [97], [2]⟩, ⟨.deletePrefix, 2, [97], []⟩, ⟨.set, 3, [98], [3]⟩, ⟨.set, 1, [98], [4]⟩]
def demoPre : Store := { Store.empty with kv := [([98], [9])], size := 2 }

example : Clean demoPre := ⟨by unfold NodupKeys; decide, rfl, by decide⟩
example : ∃ post, execBlock demoCfg demoSem demoPre demoCalls = .ok post ∧
    post.deltas.length = 5 ∧ post.getAt 1 [97] = some [2] ∧ post.getAt 2 [97] = none ∧
    post.getAt 3 [97] = some [1] ∧ post.getFirst [98] = some [9] ∧ post.getAt 1 [98] = some [4] ∧
    post.getLast [98] = some [3] := by
  refine ⟨_, rfl, ?_⟩
  decide +kernel

end SV.C08
