import Lemmas.StoreHist
/-!
# C09 — Replaying a store's cached operation log reproduces its deltas and state

`readOps` is the operation log as `Flush` leaves it (sorted in place), `applyOps` replaces the store's
log by a given one and flushes.  For **every** configuration, value semantics, pre-block state (as
`NewCall` leaves it: `Clean`, empty log) and list of calls (arbitrary ordinals, `delete_prefix`
included): replaying the log recorded for a block on a store in the same pre-block state gives
*exactly* the same store — content, deltas, size and log — for full stores, for partial stores (whose
remembered deleted prefixes are the same set), and along chains of blocks.
-/
namespace SV.C09
open SV

variable {cfg : Cfg} {sem : Sem}

/-- two stores are in the same pre-block state: same content, size, pending deltas and last ordinal
(their operation logs may differ: `applyOps` overwrites the log) -/
def SameState (a b : Store) : Prop :=
  a.kv = b.kv ∧ a.size = b.size ∧ a.deltas = b.deltas ∧ a.lastOrd = b.lastOrd

/-- the log recorded for a block is the stably sorted list of the module's calls -/
theorem recorded_log {pre p : Store} {calls : List Op} (hc : Clean pre) (hlog : pre.ops = [])
    (hp : execBlock cfg sem pre calls = .ok p) : readOps p = sortOps calls := by
  obtain ⟨_, _, i2⟩ := execBlock_inv hc hp
  rw [hlog, List.nil_append] at i2
  exact i2

/-- **Replay = execute** (full store): the log recorded for a block, applied to any store in the same
pre-block state, yields the very same post-block store as the original execution. -/
theorem replay_full {pre pre' p : Store} {calls : List Op} (hc : Clean pre) (hlog : pre.ops = [])
    (hsame : SameState pre' pre) (hp : execBlock cfg sem pre calls = .ok p) :
    applyOps cfg sem pre' (readOps p) = .ok p := by
  rw [recorded_log hc hlog hp]
  obtain ⟨h1, h2, h3, h4⟩ := hsame
  unfold execBlock at hp
  rw [record_fold_eq, hlog, List.nil_append] at hp
  unfold applyOps
  -- the two stores agree in every field but the log, and the log is overwritten
  have e : ({ pre' with ops := sortOps calls } : Store) =
      { ({ pre with ops := calls } : Store) with ops := sortOps ({ pre with ops := calls } : Store).ops } := by
    cases pre'; cases pre; simp_all
  rw [e, flush_sorted_log]
  exact hp

/-- Chains of several blocks (each block starts with `Reset`, as `NewCall` does). -/
def execChain (cfg : Cfg) (sem : Sem) (s : Store) : List (List Op) → Except SErr (List Store)
  | [] => .ok []
  | calls :: rest =>
    match execBlock cfg sem (reset s) calls with
    | .error e => .error e
    | .ok p =>
      match execChain cfg sem p rest with
      | .error e => .error e
      | .ok ps => .ok (p :: ps)

def replayChain (cfg : Cfg) (sem : Sem) (s : Store) : List (List Op) → Except SErr (List Store)
  | [] => .ok []
  | log :: rest =>
    match applyOps cfg sem (reset s) log with
    | .error e => .error e
    | .ok p =>
      match replayChain cfg sem p rest with
      | .error e => .error e
      | .ok ps => .ok (p :: ps)

/-- a block leaves a store whose `Reset` is clean again -/
theorem clean_after_block {pre p : Store} {calls : List Op} (hc : Clean pre)
    (hp : execBlock cfg sem pre calls = .ok p) : Clean (reset p) := by
  obtain ⟨b, i1, _⟩ := execBlock_inv hc hp
  exact ⟨i1.nodup, rfl, i1.size⟩

/-- The sequence of post-block stores obtained by replaying the recorded logs block after block is
the sequence obtained by executing the module. -/
theorem replay_chain (blocks : List (List Op)) : ∀ (s : Store) (posts : List Store),
    Clean (reset s) →
    execChain cfg sem s blocks = .ok posts →
    replayChain cfg sem s (posts.map readOps) = .ok posts := by
  intro s posts
  fun_induction execChain cfg sem s blocks generalizing posts with
  | case1 => rintro _ ⟨⟩; rfl
  | case2 => exact fun _ => nofun
  | case3 => exact fun _ => nofun
  | case4 s calls rest p hb ps hr ih =>
    rintro hc ⟨⟩
    simp only [List.map_cons, replayChain, replay_full hc rfl ⟨rfl, rfl, rfl, rfl⟩ hb,
      ih ps (clean_after_block hc hb) hr]

/-- **Partial stores**: the replay also reproduces the remembered deleted prefixes, as a set (the
replayed log is sorted by ordinal, the original calls are in call order; `Merge` applies all of them
before merging any key, so only the set matters — see `C02`). -/
theorem replay_partial {pre p : Partial} {calls : List Op} (hc : Clean pre.store) (hlog : pre.store.ops = [])
    (hp : Partial.execBlock cfg sem pre calls = .ok p) :
    ∃ p', Partial.applyOps cfg sem pre (readOps p.store) = .ok p' ∧ p'.store = p.store ∧
      ∀ x, x ∈ p'.deletedPrefixes ↔ x ∈ p.deletedPrefixes := by
  unfold Partial.execBlock at hp
  rw [partial_record_fold] at hp
  dsimp only at hp
  split at hp
  · cases hp
  · rename_i s hf
    cases hp
    have hfull := replay_full (pre' := pre.store) hc hlog ⟨rfl, rfl, rfl, rfl⟩ hf
    have hlogeq := recorded_log hc hlog hf
    unfold applyOps at hfull
    unfold Partial.applyOps
    simp only [hfull]
    refine ⟨_, rfl, rfl, ?_⟩
    intro x
    simp only [mem_foldl_addPfx, hlogeq, (sortOps_perm calls).mem_iff]

/-! ### Non-vacuity -/

def demoCfg : Cfg := ⟨.set, .bytes, 100, 1000, 100⟩
def demoSem : Sem := fun _ _ v => .ok v
def demoCalls : List Op := [⟨.set, 3, [97], [1]⟩, ⟨.deletePrefix, 2, [97], []⟩, ⟨.set, 1, [97, 98], [2]⟩]

example : ∃ p, execBlock demoCfg demoSem Store.empty demoCalls = .ok p ∧ p.deltas.length = 3 ∧
    readOps p ≠ demoCalls := by
  refine ⟨_, rfl, ?_⟩
  decide +kernel
example : Clean Store.empty := ⟨by unfold NodupKeys; decide, rfl, rfl⟩

end SV.C09
