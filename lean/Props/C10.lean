import Lemmas.Snapshot
/-!
# C10 — Store snapshots round-trip through save/load and are found by block range

Lemmas about the models (`Model/Wire.lean`, `Model/Filename.lean`, `Model/Snapshot.lean`) are in `Lemmas/Wire.lean`,
`Lemmas/Filename.lean`, `Lemmas/Snapshot.lean`.  `writeRetry_spec`, `writeRetry_succeeds`, `save_preserves_others` and
`name_injective` are steps towards the other theorems.

Hypotheses that recur, and where they come from:

* `(kv.map (·.1)).Nodup` — the store content is a Go `map[string][]byte`: keys are distinct.  The list order is
  the (arbitrary) order in which the map iteration emits the entries; every theorem holds for every order.
* `(vtEncStoreData kv dp).length < 2^63` — the marshalled content is a Go `[]byte`; `len` is an `int`.
* block numbers `< 2^63` for parsing a name back: `parseFileName` uses `strconv.Atoi` (an `int`) and panics above.
* block numbers `< 10^10` for the order/listing theorems: `%010d` pads to ten digits, beyond that the
  lexicographic order of the names is no longer the numeric order (the property is stated for ≤ 10 digits).

Keys and values are arbitrary byte strings (including empty ones); nothing asks for UTF-8 here, because
save/load both go through the default marshaller `VTproto` (see C18 for the other codecs).
-/
namespace SV.C10
open SV.Wire SV.Filename SV.Snapshot

/-- **Full store: load ∘ save = id.**  Saving the content `kv` of a full store whose module starts at
`init`, at boundary `stop`, into any object store `fs` succeeds, writes the object `fullName init stop`, and
loading that object into a fresh store gives the same keys and values and `totalSizeBytes` = Σ (len key + len
value).  (A full store has no deleted prefixes.) -/
theorem load_save_full (fs : Files) (init stop : Nat) (kv : KV)
    (hnd : (kv.map (·.1)).Nodup) (hlen : (vtEncStoreData kv []).length < two63) :
    ∃ fs', saveFull fs init stop kv = .ok (fullName init stop, fs') ∧
      existsFullKV fs' init stop = true ∧
      loadFull fs' (fullName init stop) = .ok ⟨kv, [], kvSize kv⟩ := by
  refine ⟨fs.write (fullName init stop) (vtEncStoreData kv []), ?_, ?_, ?_⟩
  · exact saveFull_eq fs init stop kv
  · simp only [existsFullKV, Files.exists, read_write_same, Option.isSome_some]
  · simp only [loadFull, read_write_same, unmarshalVT_enc kv [] hnd hlen]

/-- **Partial store: load ∘ save = id**, including the deleted-prefix list (order and duplicates kept) and the
size. -/
theorem load_save_partial (fs : Files) (init stop : Nat) (kv : KV) (dp : List Bytes)
    (hnd : (kv.map (·.1)).Nodup) (hlen : (vtEncStoreData kv dp).length < two63) :
    ∃ fs', savePartial fs init stop kv dp = .ok (partialName init stop, fs') ∧
      existsPartialKV fs' init stop = true ∧
      loadPartial fs' (partialName init stop) = .ok ⟨kv, dp, kvSize kv⟩ := by
  refine ⟨fs.write (partialName init stop) (vtEncStoreData kv dp), ?_, ?_, ?_⟩
  · exact savePartial_eq fs init stop kv dp
  · simp only [existsPartialKV, Files.exists, read_write_same, Option.isSome_some]
  · simp only [loadPartial, read_write_same, unmarshalVT_enc kv dp hnd hlen]

/-- the retry loop of `saveStore`: when it reports success, the object is the whole content, whatever the failed
attempts left behind, and every other object is untouched -/
theorem writeRetry_spec (name : Name) (content : Bytes) : ∀ (budget : Nat) (att : List WriteAttempt) (fs fs' : Files),
    writeRetry fs name content budget att = some fs' →
    fs'.read name = some content ∧ ∀ other, other ≠ name → fs'.read other = fs.read other := by
  intro budget att fs
  fun_induction writeRetry fs name content budget att with
  | case1 => intro fs' h; cases h
  | case2 fs | case3 fs =>
    intro fs' h
    rw [Option.some.injEq] at h
    exact h ▸ ⟨read_write_same _ _ _, fun o ho => read_write_other _ _ _ _ ho⟩
  | case4 fs k g rest ih =>
    intro fs' h
    obtain ⟨h1, h2⟩ := ih fs' h
    refine ⟨h1, fun o ho => ?_⟩
    rw [h2 o ho]
    cases g with
    | none => rfl
    | some x => exact read_write_other _ _ _ _ ho

/-- with fewer failed attempts than the retry budget the write succeeds -/
theorem writeRetry_succeeds (name : Name) (content : Bytes) : ∀ (budget : Nat) (att : List WriteAttempt) (fs : Files),
    att.length < budget → ∃ fs', writeRetry fs name content budget att = some fs' := by
  intro budget att fs
  fun_induction writeRetry fs name content budget att with
  | case1 => intro h; exact absurd h (Nat.not_lt_zero _)
  | case2 | case3 => intro _; exact ⟨_, rfl⟩
  | case4 fs k g rest ih => intro h; exact ih (Nat.lt_of_succ_lt_succ h)

/-- **load ∘ save = id under transient write failures.**  Whatever up to `saveRetries` (10) failed write attempts
left under the object's name (nothing, or any garbage; every attempt writes the content from its start), a `Save`
that reports success wrote the whole snapshot: it exists, loads back to the same keys, values, deleted prefixes and
size, and every other object is as before. -/
theorem load_save_under_write_faults (fs : Files) (init stop : Nat) (kv : KV) (dp : List Bytes)
    (att : List WriteAttempt) (hatt : att.length ≤ saveRetries)
    (hnd : (kv.map (·.1)).Nodup)
    (hlenF : (vtEncStoreData kv []).length < two63) (hlenP : (vtEncStoreData kv dp).length < two63) :
    (∃ fs', saveFullR fs init stop kv att = .ok (fullName init stop, some fs') ∧
      existsFullKV fs' init stop = true ∧
      loadFull fs' (fullName init stop) = .ok ⟨kv, [], kvSize kv⟩ ∧
      ∀ other, other ≠ fullName init stop → fs'.read other = fs.read other) ∧
    (∃ fs', savePartialR fs init stop kv dp att = .ok (partialName init stop, some fs') ∧
      existsPartialKV fs' init stop = true ∧
      loadPartial fs' (partialName init stop) = .ok ⟨kv, dp, kvSize kv⟩ ∧
      ∀ other, other ≠ partialName init stop → fs'.read other = fs.read other) := by
  have retry : ∀ name content, ∃ fs', writeRetry fs name content (saveRetries + 1) att = some fs' ∧
      fs'.read name = some content ∧ ∀ other, other ≠ name → fs'.read other = fs.read other := by
    intro name content
    obtain ⟨fs', h⟩ := writeRetry_succeeds name content (saveRetries + 1) att fs (Nat.lt_succ_of_le hatt)
    exact ⟨fs', h, writeRetry_spec _ _ _ _ _ _ h⟩
  constructor
  · obtain ⟨fs', h, h1, h2⟩ := retry (fullName init stop) (vtEncStoreData kv [])
    refine ⟨fs', ?_, ?_, ?_, h2⟩
    · simp only [saveFullR, marshalVT_eq, h]
    · simp only [existsFullKV, Files.exists, h1, Option.isSome_some]
    · simp only [loadFull, h1, unmarshalVT_enc kv [] hnd hlenF]
  · obtain ⟨fs', h, h1, h2⟩ := retry (partialName init stop) (vtEncStoreData kv dp)
    refine ⟨fs', ?_, ?_, ?_, h2⟩
    · simp only [savePartialR, marshalVT_eq, h]
    · simp only [existsPartialKV, Files.exists, h1, Option.isSome_some]
    · simp only [loadPartial, h1, unmarshalVT_enc kv dp hnd hlenP]

/-- Saving a snapshot leaves every other object of the store as it was (so earlier snapshots still load). -/
theorem save_preserves_others (fs : Files) (init stop : Nat) (kv : KV) (dp : List Bytes) (other : Name)
    (fs' : Files) (name : Name)
    (h : saveFull fs init stop kv = .ok (name, fs') ∨ savePartial fs init stop kv dp = .ok (name, fs'))
    (hne : other ≠ name) : fs'.read other = fs.read other := by
  rcases h with h | h
  · rw [saveFull_eq] at h
    cases h
    exact read_write_other fs _ other _ hne
  · rw [savePartial_eq] at h
    cases h
    exact read_write_other fs _ other _ hne

/-- **The file name encodes range and kind: parsing returns them**, for all block numbers an `int` can hold
(also beyond ten digits). -/
theorem parse_name (isPartial : Bool) (start stop : Nat) (hs : start < 2 ^ 63) (he : stop < 2 ^ 63) :
    parseFileName (snapshotName isPartial start stop) = .ok ⟨start, stop, isPartial, false⟩ :=
  parse_snapshotName isPartial start stop (Nat.le_of_lt_succ hs) (Nat.le_of_lt_succ he)

/-- Distinct (range, kind) give distinct file names (below 2^63). -/
theorem name_injective (p p' : Bool) (a b a' b' : Nat)
    (ha : a < 2 ^ 63) (hb : b < 2 ^ 63) (ha' : a' < 2 ^ 63) (hb' : b' < 2 ^ 63)
    (h : snapshotName p a b = snapshotName p' a' b') : p = p' ∧ a = a' ∧ b = b' := by
  have h1 := parse_name p a b ha hb
  have h2 := parse_name p' a' b' ha' hb'
  rw [h, h2] at h1
  injection h1 with h1
  injection h1 with e1 e2 e3 _
  exact ⟨e3.symm, e1.symm, e2.symm⟩

/-- **A later Save does not disturb an earlier one** (the squasher keeps the write of a merged snapshot pending while
it saves the next): two Saves of the same full store at different boundaries — a `Save` freezes its content — leave two
objects that load back to the state of their own Save (the Save at `e1` first; exchange `e1` and `e2` for the other
order). -/
theorem two_saves_full (fs : Files) (init e1 e2 : Nat) (kv1 kv2 : KV)
    (hi : init < 2 ^ 63) (h1 : e1 < 2 ^ 63) (h2 : e2 < 2 ^ 63) (hne : e1 ≠ e2)
    (hnd1 : (kv1.map (·.1)).Nodup) (hlen1 : (vtEncStoreData kv1 []).length < two63)
    (hnd2 : (kv2.map (·.1)).Nodup) (hlen2 : (vtEncStoreData kv2 []).length < two63) :
    ∃ fs1 fs2, saveFull fs init e1 kv1 = .ok (fullName init e1, fs1) ∧
      saveFull fs1 init e2 kv2 = .ok (fullName init e2, fs2) ∧
      loadFull fs2 (fullName init e1) = .ok ⟨kv1, [], kvSize kv1⟩ ∧
      loadFull fs2 (fullName init e2) = .ok ⟨kv2, [], kvSize kv2⟩ := by
  obtain ⟨fs1, hs1, _, hl1⟩ := load_save_full fs init e1 kv1 hnd1 hlen1
  obtain ⟨fs2, hs2, _, hl2⟩ := load_save_full fs1 init e2 kv2 hnd2 hlen2
  refine ⟨fs1, fs2, hs1, hs2, ?_, hl2⟩
  have hname : fullName init e1 ≠ fullName init e2 := by
    intro h
    have := name_injective false false init e1 init e2 hi h1 hi h2 (by simpa [snapshotName] using h)
    exact hne this.2.2
  have hkeep := save_preserves_others fs1 init e2 kv2 [] (fullName init e1) fs2 (fullName init e2) (Or.inl hs2) hname
  simp only [loadFull, hkeep]
  simpa only [loadFull] using hl1

/-- **`%010d` preserves order below 10^10**: the Go string order (`nameLe`) of the padded numbers is the numeric
order. -/
theorem pad10_order {a b : Nat} (ha : a < 10 ^ 10) (hb : b < 10 ^ 10) :
    nameLe (pad10 a) (pad10 b) = true ↔ a ≤ b :=
  nameLe_pad10 ha hb

/-- strict version: `pad10 a` sorts strictly before `pad10 b` iff `a < b` -/
theorem pad10_order_strict {a b : Nat} (ha : a < 10 ^ 10) (hb : b < 10 ^ 10) :
    nameLe (pad10 b) (pad10 a) = false ↔ a < b := by
  rw [← Bool.not_eq_true, nameLe_pad10 hb ha, Nat.not_le]

/-- a saved snapshot: block range and kind -/
structure Snap where
  start : Nat
  stop : Nat
  isPartial : Bool
deriving DecidableEq, Repr

def Snap.name (s : Snap) : Name := snapshotName s.isPartial s.start s.stop

/-- what `names` may contain besides snapshot names: objects `ListSnapshotFiles` skips -/
def Skipped (n : Name) : Prop :=
  parseFileName n = .noMatch ∨ ∃ fi, parseFileName n = .ok fi ∧ fi.withTraceID = true

/-- **Listing is complete.**  Let the object store hold the names `names` (in any order; `ListSnapshotFiles`
sees them in lexicographic order), each of which is the name of a saved snapshot with a non-empty range
(`start < stop`: segments are never empty, C13) and an end block of at most ten digits, or an object the walk
skips (unparseable, or carrying a trace id).  Then for every saved snapshot that ends at or below `below`, the
listing returns it, with its range and its full/partial kind — whether the store honours `StopIteration`
(`stops = true`: GCS, S3, Azure, the documented contract) or ignores it (`stops = false`: the local store).

What the early stop (`start ≥ below ⇒ stop`) needs is exactly: every non-skipped name that sorts before the
wanted one starts below `below`.  That follows from `start < stop`, `stop ≤ stop'` (names sort by end block,
`pad10_order`, hence the ten-digit bound) and `stop' ≤ below`. -/
theorem list_complete (stops : Bool) (below : Nat) (names : List Name) (snaps : List Snap)
    (hvalid : ∀ s ∈ snaps, s.start < s.stop ∧ s.stop < 10 ^ 10)
    (hnames : ∀ n ∈ names, (∃ s ∈ snaps, n = s.name) ∨ Skipped n)
    (s : Snap) (hs : s ∈ snaps) (hin : s.name ∈ names) (hend : s.stop ≤ below) :
    ∃ l, listSnapshotFiles stops below names = .ok l ∧ (⟨s.start, s.stop, s.isPartial, false⟩ : FileInfo) ∈ l := by
  have hparse : ∀ t ∈ snaps, parseFileName t.name = .ok ⟨t.start, t.stop, t.isPartial, false⟩ := by
    intro t ht
    have := hvalid t ht
    exact parse_name t.isPartial t.start t.stop (by omega) (by omega)
  have hsv := hvalid s hs
  unfold listSnapshotFiles
  rw [if_neg (by omega)]
  apply walk_finds stops below s.name _ (sortNames names) [] (sortNames_pairwise names)
    (mem_sortNames.2 hin) _ (hparse s hs) rfl
  · -- what the early stop needs
    intro n hn fi hp htr hle
    rcases hnames n (mem_sortNames.1 hn) with ⟨t, ht, rfl⟩ | hnm | ⟨fi', hp', ht'⟩
    · rw [hparse t ht] at hp
      cases hp
      have htv := hvalid t ht
      have := le_of_nameLe_snapshotName htv.2 hsv.2 hle
      show t.start < below
      omega
    · rw [hnm] at hp; cases hp
    · rw [hp'] at hp
      cases hp
      rw [ht'] at htr
      cases htr
  · -- nothing in the directory makes `mustAtoi` panic
    intro n hn hpanic
    rcases hnames n (mem_sortNames.1 hn) with ⟨t, ht, rfl⟩ | hnm | ⟨fi', hp', _⟩
    · rw [hparse t ht] at hpanic; cases hpanic
    · rw [hnm] at hpanic; cases hpanic
    · rw [hp'] at hpanic; cases hpanic

/-- The listing returns only what is in the store with the kind its name says: every returned file info is the
parse of one of the names, carries no trace id and starts below `below`. -/
theorem list_sound (stops : Bool) (below : Nat) (names : List Name) (l : List FileInfo)
    (h : listSnapshotFiles stops below names = .ok l) :
    ∀ fi ∈ l, fi.withTraceID = false ∧ fi.start < below ∧ ∃ n ∈ names, parseFileName n = .ok fi := by
  unfold listSnapshotFiles at h
  by_cases hb : below = 0
  · rw [if_pos hb] at h
    injection h with h
    subst h
    intro fi hfi
    simp at hfi
  · rw [if_neg hb] at h
    intro fi hfi
    obtain ⟨h₁, h₂, n, hn, h₃⟩ := (walk_sound _ _ _ _ _ h fi hfi).resolve_left List.not_mem_nil
    exact ⟨h₁, h₂, n, mem_sortNames.1 hn, h₃⟩

/-! ### non-vacuity: the hypotheses are met by concrete, non-trivial instances -/

/-- a partial store with a binary key (not UTF-8), an empty value, the empty key and two deleted prefixes
satisfies the hypotheses of `load_save_partial` -/
example :
    let kv : KV := [([0x6b, 0xff, 0xfe], [1, 2, 3]), ([0x61], []), ([], [9])]
    let dp : List Bytes := [[0x70], [0xff]]
    (kv.map (·.1)).Nodup ∧ (vtEncStoreData kv dp).length < two63 := by
  decide +kernel

/-- … and this is what the model computes on it, bytes included (evaluated by the kernel) -/
example :
    vtEncStoreData [([0x6b, 0xff, 0xfe], [1, 2, 3]), ([], [9])] [[0x70]]
      = [0x0a, 0x0a, 0x0a, 0x03, 0x6b, 0xff, 0xfe, 0x12, 0x03, 1, 2, 3, 0x0a, 0x05, 0x0a, 0x00, 0x12, 0x01, 9,
         0x12, 0x01, 0x70] := by
  decide +kernel
example :
    loadPartial [(partialName 100 200,
      [0x0a, 0x0a, 0x0a, 0x03, 0x6b, 0xff, 0xfe, 0x12, 0x03, 1, 2, 3, 0x0a, 0x05, 0x0a, 0x00, 0x12, 0x01, 9,
       0x12, 0x01, 0x70])] (partialName 100 200)
      = .ok ⟨[([0x6b, 0xff, 0xfe], [1, 2, 3]), ([], [9])], [[0x70]], 7⟩ := by
  simp only [loadPartial, Files.read, if_true]
  rfl

/-- two failed attempts (nothing left, then half of the payload left under the name), third attempt succeeds: the
object is the whole snapshot -/
example :
    writeRetry [] (partialName 100 200) [10, 20, 30, 40] (saveRetries + 1) [.fail none, .fail (some [10, 20])]
      = some [(partialName 100 200, [10, 20, 30, 40])] := by
  decide +kernel

/-- eleven failed attempts use up the ten retries: the Save reports the error -/
example :
    writeRetry [] (partialName 100 200) [1] (saveRetries + 1) (List.replicate 11 (.fail none)) = none := by
  decide +kernel

/-- names: the literal strings; beyond ten digits the name still parses back -/
example : partialName 1000 2000 = "0000002000-0000001000.partial".toList := by
  decide +kernel
example : fullName 5 12345678901 = "12345678901-0000000005.kv".toList := by
  decide +kernel
example : parseFileName "12345678901-0000000005.kv".toList = .ok ⟨5, 12345678901, false, false⟩ := by decide +kernel
example : parseFileName "0000003000-0000002000.abcdef.partial".toList = .ok ⟨2000, 3000, true, true⟩ := by decide +kernel
example : parseFileName "x0000000010-0000000005.kvx".toList = .ok ⟨5, 10, false, false⟩ := by decide +kernel  -- unanchored
example : parseFileName "9223372036854775808-0000000000.kv".toList = .panic := by decide +kernel

/-- a directory with two full snapshots, two partials, a trace-id file and a foreign file satisfies the
hypotheses of `list_complete` -/
example :
    let snaps : List Snap := [⟨0, 1000, false⟩, ⟨1000, 2000, true⟩, ⟨0, 3000, false⟩, ⟨2000, 3000, true⟩]
    let names : List Name := snaps.map Snap.name ++
      ["0000003000-0000002000.abcdef.partial".toList, "foo".toList]
    (∀ s ∈ snaps, s.start < s.stop ∧ s.stop < 10 ^ 10) ∧
    (∀ n ∈ names, (∃ s ∈ snaps, n = s.name) ∨ Skipped n) := by
  refine ⟨by decide +kernel, fun n hn => ?_⟩
  rcases List.mem_append.1 hn with h | h
  · obtain ⟨s, hs, rfl⟩ := List.mem_map.1 h
    exact Or.inl ⟨s, hs, rfl⟩
  · simp only [List.mem_cons, List.mem_nil_iff, or_false] at h
    rcases h with rfl | rfl
    · exact Or.inr (Or.inr ⟨⟨2000, 3000, true, true⟩, by decide +kernel, rfl⟩)
    · exact Or.inr (Or.inl (by decide +kernel))

/-- the walk on that directory (names in lexicographic order), `below = 2000` -/
example :
    walk true 2000
      ["0000001000-0000000000.kv".toList, "0000002000-0000001000.partial".toList,
       "0000003000-0000000000.kv".toList, "0000003000-0000002000.abcdef.partial".toList,
       "0000003000-0000002000.partial".toList, "foo".toList] []
      = .ok [⟨0, 1000, false, false⟩, ⟨1000, 2000, true, false⟩, ⟨0, 3000, false, false⟩] := by decide +kernel

/-- Beyond ten digits the early stop hides a snapshot (why `list_complete` asks for `stop < 10^10`; the property
is stated for block numbers of at most ten digits): `[9600000000, 10000000000)` sorts first. -/
example :
    ["10000000000-9600000000.kv".toList, "9000000000-0000000000.kv".toList].Pairwise (fun a b => nameLe a b = true) ∧
    walk true 9500000000 ["10000000000-9600000000.kv".toList, "9000000000-0000000000.kv".toList] [] = .ok [] := by
  decide +kernel

/-- … and a snapshot with an empty range ending at `below` is not listed (why `start < stop`): -/
example : walk true 20 ["0000000020-0000000020.partial".toList] [] = .ok [] := by decide +kernel

end SV.C10
