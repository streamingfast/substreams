import Lemmas.History
/-!
# C11 — Store size accounting is exact, so size limits are enforced consistently

`Store.size` is Go's `totalSizeBytes`, updated by `ApplyDelta`, `ApplyDeltasReverse`, `setKV`,
`setNewKV` and set from the decoder's count on load; `kvSize` is the total length of keys and values.
All theorems hold for **every** configuration, every value semantics (every policy and value type)
and every history, with no bound on its length.
-/
namespace SV.C11
open SV

variable {cfg : Cfg} {sem : Sem}

/-- **Exactness over all histories.** Starting from an empty store, after any sequence of blocks of
writes and deletions, undos of the most recent applied blocks (including a block undone after it was
re-applied: `block c, undo, block c, undo, …`), finality steps, merges of partial stores and save/load
cycles, the reported size equals the total length of keys and values (and keys stay distinct). -/
theorem size_exact (hs : List Hist) :
    let st := runHist cfg sem ⟨Store.empty, [], false⟩ hs
    st.s.size = kvSize st.s.kv ∧ NodupKeys st.s.kv := by
  have h0 : HInv (⟨Store.empty, [], false⟩ : HState) :=
    ⟨⟨by unfold NodupKeys; decide, rfl⟩, trivial⟩
  have := runHist_inv (cfg := cfg) (sem := sem) hs _ h0
  exact ⟨this.sinv.size, this.sinv.nodup⟩

/-- The same from any consistent state (e.g. a store loaded from a snapshot). -/
theorem size_exact_from (st : HState) (h : HInv st) (hs : List Hist) :
    (runHist cfg sem st hs).s.size = kvSize (runHist cfg sem st hs).s.kv :=
  (runHist_inv hs st h).sinv.size

/-- Undo restores the pre-block content exactly (not only the size): after `block c` then `undo` the
store holds what it held before the block. -/
theorem undo_restores (st : HState) (h : HInv st) (calls : List Op) (hd : st.dead = false) (k : Bytes) :
    let st1 := stepHist cfg sem st (.block calls)
    st1.dead = false → look (stepHist cfg sem st1 .undo).s.kv k = look st.s.kv k := by
  intro st1 hd1
  cases hb : execBlock cfg sem (reset st.s) calls with
  | error e =>
    have : st1.dead = true := by simp [st1, stepHist, hd, hb]
    rw [this] at hd1; cases hd1
  | ok s' =>
    have e : st1 = { st with s := s', stack := s'.deltas :: st.stack } := by simp [st1, stepHist, hd, hb]
    obtain ⟨b, i1, _⟩ := execBlock_inv h.sinv.reset hb
    rw [e]
    simp only [stepHist, hd, Bool.false_eq_true, ↓reduceIte]
    exact congrFun (undo_spec (look st.s.kv) s'.deltas s' i1.chain i1.kvpost i1.nodup i1.size).1 k

/-- The size update of `ApplyDelta` does not underflow (Go's `uint64` would wrap): whenever a delta is applied to a
consistent store and is well formed w.r.t. its content, what is subtracted is at most the size. -/
theorem no_underflow_apply {s : Store} (h : SInv s) (d : Delta) (hw : WFd (look s.kv) d) :
    (d.op = .delete → d.old.length + d.key.length ≤ s.size) ∧
    (d.op = .update → d.old.length ≤ s.size) := by
  have hge := kvSize_ge s.kv d.key
  unfold WFd at hw
  rw [h.size]
  constructor
  · intro hop; simp only [hop] at hw; simp only [hw, entrySize] at hge; omega
  · intro hop; simp only [hop] at hw; simp only [hw, entrySize] at hge; omega

/-- "A store is rejected as too big exactly when its real content exceeds the limit": for a store
whose accounting is exact and a well-formed non-delete delta on a valid key, `ApplyDelta` fails with
"became too big" iff the *real* size of the content after the delta exceeds the limit. -/
theorem too_big_iff {s : Store} (h : SInv s) (d : Delta) (hw : WFd (look s.kv) d)
    (hk : d.key ≠ []) (hff : d.key.head? ≠ some 255) :
    applyDelta cfg s d = .error .tooBig ↔ (d.op ≠ .delete ∧ kvSize (applyDeltaKV s.kv d) > cfg.totalLimit) := by
  rw [← applyDeltaSize_eq h.nodup hw, ← h.size]
  fun_cases applyDelta cfg s d with
  | case1 hk' => exact absurd hk' hk
  | case2 _ hff' => exact absurd hff' hff
  | case3 _ _ _ hx => exact ⟨fun _ => hx, fun _ => rfl⟩
  | case4 _ _ _ hx => exact ⟨nofun, fun hy => absurd hy hx⟩

/-! ### Non-vacuity: a history mixing all step kinds, with the same block undone twice -/

def demoCfg : Cfg := ⟨.set, .bytes, 100, 1000, 100⟩
def demoSem : Sem := fun _ _ v => .ok v
def blk1 : List Op := [⟨.set, 1, [97], [1, 2]⟩, ⟨.set, 2, [98], [3]⟩]
def blk2 : List Op := [⟨.set, 1, [97], [9]⟩, ⟨.deletePrefix, 2, [98], []⟩, ⟨.set, 3, [99], [4, 5, 6]⟩]
def demoHist : List Hist :=
  [.block blk1, .final, .saveLoad, .block blk2, .undo, .block blk2, .undo, .block blk2, .final,
   .merge ⟨{ Store.empty with kv := [([100], [7])], size := 2 }, [[97]]⟩]

example : (runHist demoCfg demoSem ⟨Store.empty, [], false⟩ demoHist).dead = false ∧
    (runHist demoCfg demoSem ⟨Store.empty, [], false⟩ demoHist).s.size = 6 := by decide +kernel

end SV.C11
