import Lemmas.Plan
/-!
# C12 — Request resolution and planning cover the requested range exactly

Property theorems only (model: `Model/Resolve.lean`, `Model/Plan.lean`; helper lemmas:
`Lemmas/Resolve.lean`, `Lemmas/Plan.lean`; segment arithmetic reused from C13).  All statements are for
**every** segment size `> 0`, every first streamable block, every list of store initial blocks (any length, any order), every
start / stop / final block, every cursor and resolver answer — no bound.

Setting of most theorems: `hd : buildRequestDetails env m req = .ok (d, u)` (what
`pipeline.BuildRequestDetails` returned) and `hp : planOfDetails env m d = .ok p` (what
`plan.BuildTier1RequestPlan` returned when called the way `Tier1Service.blocks` calls it).
`m.reqStores` is the list of required stores: the stores the output module depends on plus the output module
itself when it is of kind store (`StoresDownTo`).
`tier1_ok` shows that a successful `tier1` run provides both, plus the two side conditions some theorems name:
`m.graphOk env.fsb` (`exec.NewOutputModuleGraph` accepted the modules) and `m.out ≤ d.start`
(`ValidateRequestStartBlock` passed).
-/
namespace SV.C12
open SV SV.Resolve SV.Plan

/-- block `b` is read from cached outputs -/
def inRead (p : Plan) (b : Nat) : Prop := ∃ r, p.readExecOut = some r ∧ r.start ≤ b ∧ b < r.stop
/-- block `b` is processed by the linear pipeline (an end block of 0 means "no end") -/
def inLinear (p : Plan) (b : Nat) : Prop :=
  ∃ r, p.linear = some r ∧ r.start ≤ b ∧ (r.stop = 0 ∨ b < r.stop)
/-- block `b` was requested: `[start, stop)`, `stop = 0` meaning "no end" -/
def requested (d : Details) (b : Nat) : Prop := d.start ≤ b ∧ (d.stop = 0 ∨ b < d.stop)

variable {env : Env} {m : Mods} {req : Request} {d : Details} {u : Option Undo} {p : Plan}

/-! ### what a successful run of the tier-1 prelude provides -/

/-- A plan is only produced after the graph was accepted, the prelude normalised the start block,
`BuildRequestDetails` succeeded, start ≠ stop, the start block is not below the output module's initial
block, and `BuildTier1RequestPlan` succeeded. -/
theorem tier1_ok {o : Outcome} (h : tier1 env m req = .ok o) :
    m.graphOk env.fsb = true ∧
    ∃ sn, normalizeStart env.fsb req.startNum req.stop = .ok sn ∧
      buildRequestDetails env m { req with startNum := sn } = .ok (o.d, o.undo) ∧
      ¬(o.d.start = req.stop ∧ req.stop ≠ 0) ∧ m.out ≤ o.d.start ∧
      planOfDetails env m o.d = .ok o.plan := by
  unfold tier1 at h
  split at h
  · cases h
  rename_i hg
  obtain ⟨sn, hn, h⟩ := bind_eq_ok h
  obtain ⟨⟨d, u⟩, hb, h⟩ := bind_eq_ok h
  simp only [] at h
  split at h
  · cases h
  rename_i hss
  obtain ⟨_, hv, h⟩ := bind_eq_ok h
  obtain ⟨p, hp, h⟩ := bind_eq_ok h
  cases h
  refine ⟨by simpa using hg, sn, hn, hb, hss, ?_, hp⟩
  unfold Mods.validateRequestStartBlock at hv
  split at hv
  · cases hv
  · exact Nat.le_of_not_lt ‹_›

/-! ### (a) the plan partitions the requested range -/

/-- `ReadExecOut = [start, min(handoff, stop))` exactly in production mode with the start block below the
hand-off (else `nil`); `stop = 0` means "no end". -/
theorem read_execout_eq (hp : planOfDetails env m d = .ok p) :
    p.readExecOut = (if d.production = true ∧ d.start < d.handoff
      then some ⟨d.start, if d.stop ≠ 0 ∧ d.stop < d.handoff then d.stop else d.handoff⟩ else none) :=
  (buildPlan_ok hp).readExecOut

/-- `LinearPipeline = [handoff, stop)` exactly when `handoff < stop ∨ stop = 0` (else `nil`). -/
theorem linear_pipeline_eq (hp : planOfDetails env m d = .ok p) :
    p.linear = (if d.handoff < d.stop ∨ d.stop = 0 then some ⟨d.handoff, d.stop⟩ else none) := by
  rw [(buildPlan_ok hp).linear]
  -- the Go condition has a third case, `handoff = 0`; without `handoff < stop` it forces `stop = 0`
  have e : d.handoff < d.stop ∨ d.stop = 0 ∨ d.handoff = 0 ↔ d.handoff < d.stop ∨ d.stop = 0 :=
    ⟨fun h => by omega, fun h => h.imp_right .inl⟩
  simp only [e]

/-- The gate is `max(start, handoff)`. -/
theorem gate_eq (hd : buildRequestDetails env m req = .ok (d, u)) : d.gate = max d.start d.handoff := by
  obtain ⟨r, hr⟩ := buildRequestDetails_ok hd
  rw [hr.gate]
  exact clip_eq_max d.start d.handoff

/-- In development mode the hand-off is never above the start block (nothing is read from cache there). -/
theorem dev_handoff_le_start (hd : buildRequestDetails env m req = .ok (d, u))
    (hdev : d.production = false) : d.handoff ≤ d.start := by
  rcases handoff_of_details hd with h | ⟨h, _⟩ | ⟨_, _, h, _⟩
  · exact h.2 hdev
  · exact Nat.le_of_eq h
  · exact Nat.le_of_lt h

/-- **No gap, no overlap.**  The blocks delivered — those read from cached outputs plus those of the linear
pipeline at or above the gate — are exactly the requested blocks `[start, stop)`, and no block is delivered
by both. -/
theorem plan_partition (hd : buildRequestDetails env m req = .ok (d, u))
    (hp : planOfDetails env m d = .ok p) (b : Nat) :
    ((inRead p b ∨ (inLinear p b ∧ d.gate ≤ b)) ↔ requested d b) ∧
    ¬(inRead p b ∧ inLinear p b ∧ d.gate ≤ b) := by
  unfold inRead inLinear requested
  rw [mem_readExecOut_iff hp, mem_linear_iff hp, gate_eq hd]
  refine ⟨⟨?_, fun ⟨h1, hS⟩ => ?_⟩,
    fun ⟨⟨_, _, hlt, _⟩, ⟨hle, _⟩, _⟩ => Nat.lt_irrefl _ (Nat.lt_of_lt_of_le hlt hle)⟩
  · rintro (⟨_, h1, _, hS⟩ | ⟨⟨_, hS⟩, hm⟩)
    · exact ⟨h1, hS⟩
    · exact ⟨Nat.le_trans (Nat.le_max_left _ _) hm, hS⟩
  · -- below the hand-off the block is read from cache, which only production mode has to do
    by_cases hb : b < d.handoff
    · cases hprod : d.production with
      | true => exact .inl ⟨rfl, h1, hb, hS⟩
      | false => exact absurd (Nat.le_trans (dev_handoff_le_start hd hprod) h1) (Nat.not_le.2 hb)
    · exact .inr ⟨⟨Nat.le_of_not_lt hb, hS⟩, Nat.max_le.2 ⟨h1, Nat.le_of_not_lt hb⟩⟩

/-! ### (b) stores are built exactly up to the hand-off -/

/-- `BuildStores` is set iff some required store (`m.reqStores`: the stores the output module depends on and,
when it is itself a store, the output module) has its (effective) initial block below the hand-off — a
store that has to be back-filled —; it then starts at the lowest store initial block and ends at the
hand-off, never past it. -/
theorem stores_up_to_handoff (hp : planOfDetails env m d = .ok p) (hg : m.graphOk env.fsb = true) :
    (p.buildStores ≠ none ↔ ∃ s ∈ m.reqStores, mapInit env.fsb s < d.handoff) ∧
    (∀ r, p.buildStores = some r →
      r.stop = d.handoff ∧ (∃ s ∈ m.reqStores, mapInit env.fsb s = r.start) ∧
      ∀ s ∈ m.reqStores, r.start ≤ mapInit env.fsb s) := by
  refine ⟨⟨fun hne => ?_, fun ⟨s, hs, hlt⟩ => ?_⟩, fun r hr => ?_⟩
  · obtain ⟨r, hr⟩ := Option.ne_none_iff_exists'.1 hne
    obtain ⟨hls, hlt, _⟩ := (buildStores_eq_some_iff hp).1 hr
    obtain ⟨⟨s, hs, he⟩, _⟩ := lowestStores_spec env.fsb m hg _ hls
    exact ⟨s, hs, he ▸ hlt⟩
  · cases hls : m.lowestStoresInitBlock env.fsb with
    | none => rw [(lowestStores_none_iff env.fsb m).1 hls] at hs; cases hs
    | some ls =>
      have hle := (lowestStores_spec env.fsb m hg ls hls).2 s hs
      rw [(buildStores_eq_some_iff hp (r := ⟨ls, d.handoff⟩)).2 ⟨hls, Nat.lt_of_le_of_lt hle hlt, rfl⟩]
      nofun
  · obtain ⟨hls, _, hstop⟩ := (buildStores_eq_some_iff hp).1 hr
    exact ⟨hstop, lowestStores_spec env.fsb m hg _ hls⟩

/-! ### (c) the hand-off is a segment boundary whenever something is back-filled up to it

Checked against every return path of `computeLinearHandoffBlockNum` (`handoff_cases`): the paths that do
not return a boundary are `return startBlock` (production with the start above the final block's boundary and
no store below the start; development with no store below the start) and development's
`return *stateRequiredAt` (the lowest store starts above the previous boundary).  On all three the
hand-off is at or below every store's initial block, so nothing is back-filled: the statement needs no guard
(the model mirrors the code after `fix: reprocStateRequired returns the lowest store initial block …`; before
that commit it failed for stores listed in descending order). -/
theorem handoff_on_boundary (hd : buildRequestDetails env m req = .ok (d, u))
    (hp : planOfDetails env m d = .ok p) (hseg : 0 < env.seg)
    (h : p.buildStores ≠ none ∨ p.writeExecOut ≠ none) : d.handoff % env.seg = 0 := by
  rcases handoff_boundary_or_below hd with hb | ⟨hle, hno⟩
  · exact hb
  · exfalso
    rcases h with h | h
    · cases hbs : p.buildStores with
      | none => exact h hbs
      | some r =>
        obtain ⟨hls, hlt, _⟩ := (buildStores_eq_some_iff hp).1 hbs
        exact Nat.not_le.2 hlt (lowestStores_ge_raw env.fsb m _ _ hls hno)
    · cases hws : p.writeExecOut with
      | none => exact h hws
      | some w => exact Nat.not_lt.2 hle ((writeExecOut_eq_some_iff hp hseg).1 hws).1.2

/-- **What the hand-off is, on every return path** (the precise statement behind `handoff_on_boundary`):
a segment boundary; or the start block itself, with no required store below it; or — development mode only —
the initial block of the lowest required store, which lies below the start block and above the start block's
segment boundary.  In the last two cases no required store starts below the hand-off. -/
theorem handoff_value (hd : buildRequestDetails env m req = .ok (d, u)) (hseg : 0 < env.seg) :
    d.handoff % env.seg = 0 ∨
    (d.handoff = d.start ∧ ∀ s ∈ m.reqStores, d.start ≤ s) ∨
    (d.production = false ∧ d.handoff ∈ m.reqStores ∧ d.handoff < d.start ∧
      d.start - d.start % env.seg < d.handoff ∧ ∀ s ∈ m.reqStores, d.handoff ≤ s) :=
  (handoff_of_details hd).imp_left And.left

/-- **The hand-off does not depend on the order of the modules in the request** (the regression fixed by
`fix: reprocStateRequired returns the lowest store initial block below the start block`). -/
theorem handoff_independent_of_module_order (start : Nat) (l l' : List Nat) (h : l.Perm l') :
    reprocStateRequired start l = reprocStateRequired start l' :=
  Option.ext fun x => by simp only [reproc_eq_some_iff, h.mem_iff]

/-! ### (d) whole segments -/

/-- `WriteExecOut` ends at the hand-off (a boundary) and starts at the start of the segment that contains the
start block: the segment's boundary, or the lowest initial block of the graph when that lies inside this
segment. -/
theorem write_execout_whole_segments (hd : buildRequestDetails env m req = .ok (d, u))
    (hp : planOfDetails env m d = .ok p) (hseg : 0 < env.seg) (w : Range)
    (hw : p.writeExecOut = some w) :
    w.stop = d.handoff ∧ d.handoff % env.seg = 0 ∧
    w.start = max (m.lowestInitBlock env.fsb) (d.start / env.seg * env.seg) ∧
    w.start ≤ d.start ∧ d.start < w.start / env.seg * env.seg + env.seg ∧ d.start < d.handoff := by
  have hbound := handoff_on_boundary hd hp hseg (Or.inr (by rw [hw]; nofun))
  obtain ⟨⟨_, hlt⟩, rfl⟩ := (writeExecOut_eq_some_iff hp hseg).1 hw
  have hle : max (m.lowestInitBlock env.fsb) (d.start / env.seg * env.seg) ≤ d.start :=
    Nat.max_le.2 ⟨(buildPlan_ok hp).le_start, Nat.div_mul_le_self _ _⟩
  refine ⟨rfl, hbound, rfl, hle, ?_, hlt⟩
  have hq : max (m.lowestInitBlock env.fsb) (d.start / env.seg * env.seg) / env.seg = d.start / env.seg :=
    (div_eq_iff' _ _ _ hseg).2
      ⟨Nat.le_max_right _ _, Nat.lt_of_le_of_lt hle (lt_div_succ_mul d.start env.seg hseg)⟩
  show d.start < max _ _ / env.seg * env.seg + env.seg
  rw [hq, ← Nat.succ_mul]
  exact lt_div_succ_mul d.start env.seg hseg

/-- Both kinds of stage take their segmenter from a plan range that ends at the hand-off, and whenever such a
range exists the hand-off is a positive multiple of the segment size. -/
theorem stage_segmenter_ends_at_handoff (hd : buildRequestDetails env m req = .ok (d, u))
    (hp : planOfDetails env m d = .ok p) (hseg : 0 < env.seg) (k : Plan.StageKind) (ks : Segmenter)
    (hks : p.kindSegmenter k = some ks) :
    ks.interval = env.seg ∧ ks.end_ = d.handoff ∧ d.handoff % env.seg = 0 ∧ 0 < d.handoff := by
  have hpseg : p.seg = env.seg := (buildPlan_ok hp).seg_eq
  cases k with
  | store =>
    obtain ⟨r, hbs, rfl⟩ := Option.map_eq_some_iff.1 hks
    obtain ⟨_, hlt, hstop⟩ := (buildStores_eq_some_iff hp).1 hbs
    exact ⟨hpseg, hstop, handoff_on_boundary hd hp hseg (Or.inl (by rw [hbs]; nofun)), by omega⟩
  | map =>
    obtain ⟨w, hws, rfl⟩ := Option.map_eq_some_iff.1 hks
    have hw := write_execout_whole_segments hd hp hseg w hws
    exact ⟨hpseg, hw.1, hw.2.1, by omega⟩

/-- Closed form of a stage's unit (C13's `range_closed_form` at a hand-off that is a boundary): inside the index
range of the stage segmenter `WithInitialBlock(mapInit fsb raw)`, unit `idx` is
`[max(idx·seg, first streamable, raw), (idx+1)·seg)` — what tier 2 recomputes. -/
theorem stage_unit_range (hd : buildRequestDetails env m req = .ok (d, u))
    (hp : planOfDetails env m d = .ok p) (hseg : 0 < env.seg) (k : Plan.StageKind) (ks : Segmenter)
    (hks : p.kindSegmenter k = some ks) (raw idx : Nat) (hraw : raw = 0 ∨ env.fsb ≤ raw)
    (h1 : (⟨ks.interval, mapInit env.fsb raw, ks.end_⟩ : Segmenter).firstIndex ≤ idx)
    (h2 : idx ≤ (⟨ks.interval, mapInit env.fsb raw, ks.end_⟩ : Segmenter).lastIndex) :
    (⟨ks.interval, mapInit env.fsb raw, ks.end_⟩ : Segmenter).range? idx
        = some (tier2Range env.seg env.fsb idx raw) ∧
    (tier2Range env.seg env.fsb idx raw).start = max (mapInit env.fsb raw) (idx * env.seg) ∧
    (tier2Range env.seg env.fsb idx raw).stop = (idx + 1) * env.seg ∧
    (tier2Range env.seg env.fsb idx raw).start / env.seg = idx ∧
    (tier2Range env.seg env.fsb idx raw).stop ≤ d.handoff := by
  obtain ⟨hi, he, hmod, hpos⟩ := stage_segmenter_ends_at_handoff hd hp hseg k ks hks
  rw [hi, he] at h1 h2 ⊢
  obtain ⟨hle, hr⟩ := Segmenter.range?_eq_of_end_aligned ⟨env.seg, mapInit env.fsb raw, d.handoff⟩
    hseg hmod hpos h1 h2
  have hf : mapInit env.fsb raw < idx * env.seg + env.seg := (Segmenter.firstIndex_le_iff _ hseg).1 h1
  rw [tier2Range_eq _ _ _ hraw]
  refine ⟨hr, rfl, (Nat.succ_mul _ _).symm, ?_, hle⟩
  refine (div_eq_iff' _ _ _ hseg).2 ⟨Nat.le_max_right _ _, Nat.max_lt.2 ⟨?_, ?_⟩⟩ <;>
    rw [Nat.succ_mul]
  · exact hf
  · exact Nat.lt_add_of_pos_right hseg

/-- **Every unit handed to a job is a whole tier-2 segment.**  For a stage of either kind whose lowest module
has raw initial block `raw` (so `NewStages` gives it `WithInitialBlock(mapInit fsb raw)`; the same holds for
the per-module segmenters): whenever `NextJob` hands out unit `idx` with range `r`, then `r` is exactly the
range the tier-2 job recomputes from `(SegmentNumber, SegmentSize)` clipped at the module's initial block,
the segment number `work.NewRequest` derives from `r`'s start block is `idx`, `r` ends at or below the
hand-off, and the nil-range dereference in `NextJob` is unreachable. -/
theorem jobs_are_whole_segments (hd : buildRequestDetails env m req = .ok (d, u))
    (hp : planOfDetails env m d = .ok p) (hseg : 0 < env.seg)
    (k : Plan.StageKind) (raw idx : Nat) (hraw : raw = 0 ∨ env.fsb ≤ raw) :
    p.unitOutcome k (mapInit env.fsb raw) idx ≠ .nilRange ∧
    ∀ r, p.unitOutcome k (mapInit env.fsb raw) idx = .job r →
      r = tier2Range env.seg env.fsb idx raw ∧ segmentNumberOf env.seg r = idx ∧
      r.stop ≤ d.handoff := by
  fun_cases Plan.unitOutcome p k (mapInit env.fsb raw) idx
  -- `case5`: `stage.segmenter.Range(idx)` is nil, `case7`: a job is handed out; in both the index is within the bounds
  case case5 _ ks hk _ _ _ _ h4 h5 hnone =>
    have := (stage_unit_range hd hp hseg k ks hk raw idx hraw (Nat.le_of_not_lt h4) (Nat.le_of_not_lt h5)).1
    rw [hnone] at this
    cases this
  case case7 _ ks hk _ _ _ _ h4 h5 r hr _ =>
    obtain ⟨hrange, _, _, hsn, hle⟩ :=
      stage_unit_range hd hp hseg k ks hk raw idx hraw (Nat.le_of_not_lt h4) (Nat.le_of_not_lt h5)
    cases hr.symm.trans hrange
    exact ⟨nofun, fun r' hr' => by cases hr'; exact ⟨rfl, hsn, hle⟩⟩
  all_goals exact ⟨nofun, nofun⟩

/-- **The jobs cover what has to be built.**  Every block from the stage's initial block (and the start of the
plan range the stage works on: `BuildStores.start` / `WriteExecOut.start`) up to the hand-off lies in the
range of the unit `NextJob` hands out for its segment — so the stores are built, and the mapper output
written, for every block below the hand-off, by whole-segment jobs only. -/
theorem jobs_cover (hd : buildRequestDetails env m req = .ok (d, u))
    (hp : planOfDetails env m d = .ok p) (hseg : 0 < env.seg)
    (k : Plan.StageKind) (ks : Segmenter) (hk : p.kindSegmenter k = some ks)
    (raw : Nat) (hraw : raw = 0 ∨ env.fsb ≤ raw) (b : Nat)
    (h1 : ks.init ≤ b) (h2 : mapInit env.fsb raw ≤ b) (h3 : b < d.handoff) :
    ∃ r, p.unitOutcome k (mapInit env.fsb raw) (b / env.seg) = .job r ∧ r.start ≤ b ∧ b < r.stop := by
  have hends := stage_segmenter_ends_at_handoff hd hp hseg
  -- `NextJob`'s loop bounds, taken from the back-process segmenter, contain the stage's
  obtain ⟨g, hg, hgi, hginit, hgend⟩ := backprocess_contains hk fun k' ks' h' => (hends k' ks' h').2.1
  obtain ⟨hi, he, _, _⟩ := hends k ks hk
  obtain ⟨ki, kinit, kend⟩ := ks
  obtain ⟨gi, ginit, gend⟩ := g
  cases hi; cases he; cases hgi; cases hgend
  -- all three segmenters have size `env.seg`, end at the hand-off and contain `b`
  have ⟨h4, h5⟩ := Segmenter.index_mem ⟨env.seg, mapInit env.fsb raw, d.handoff⟩ h2 h3
  have ⟨hks, _⟩ := Segmenter.index_mem ⟨env.seg, kinit, d.handoff⟩ h1 h3
  have ⟨hg1, hg2⟩ := Segmenter.index_mem ⟨env.seg, ginit, d.handoff⟩ (Nat.le_trans hginit h1) h3
  obtain ⟨hr, hstart, hstop, _, _⟩ := stage_unit_range hd hp hseg k _ hk raw (b / env.seg) hraw h4 h5
  have hle : (tier2Range env.seg env.fsb (b / env.seg) raw).start ≤ b :=
    hstart ▸ Nat.max_le.2 ⟨h2, Nat.div_mul_le_self b env.seg⟩
  have hlt : b < (tier2Range env.seg env.fsb (b / env.seg) raw).stop :=
    hstop ▸ lt_div_succ_mul b env.seg hseg
  exact ⟨_, (unitOutcome_eq hg hk hg1 hg2 hks h4 h5 hr).trans (if_neg (by omega)), hle, hlt⟩

/-- **Producer and consumer agree on every file.**  The segmenter the cached-output reader walks
(`ReadOutSegmenter(outputModuleInitialBlock)`) yields, for each of its indexes, exactly the range under which
the tier-2 job of that segment wrote the output module's file. -/
theorem read_out_matches_tier2 (hd : buildRequestDetails env m req = .ok (d, u))
    (hp : planOfDetails env m d = .ok p) (hseg : 0 < env.seg) (hg : m.graphOk env.fsb = true)
    (hv : m.out ≤ d.start) (s : Segmenter)
    (hs : p.readOutSegmenter (mapInit env.fsb m.out) = some s) (idx : Nat)
    (h1 : s.firstIndex ≤ idx) (h2 : idx ≤ s.lastIndex) :
    s.range? idx = some (tier2Range env.seg env.fsb idx m.out) := by
  obtain ⟨w, hws, rfl⟩ := Option.map_eq_some_iff.1 hs
  obtain ⟨hstop, hmod, hstart, _, _, hlt⟩ := write_execout_whole_segments hd hp hseg w hws
  have hpseg : p.seg = env.seg := (buildPlan_ok hp).seg_eq
  obtain ⟨_, hr⟩ := Segmenter.range?_eq_of_end_aligned _ (hpseg ▸ hseg) (hpseg ▸ hstop ▸ hmod)
    (hstop ▸ Nat.zero_lt_of_lt hlt) h1 h2
  have hf := (Segmenter.firstIndex_le_iff _ (hpseg ▸ hseg)).1 h1
  rw [hr, tier2Range_eq _ _ _ ((graphOk_iff env.fsb m).1 hg).1]
  simp only [hpseg] at hf ⊢
  refine congrArg (fun x => some (Range.mk x _)) ?_
  -- `WriteExecOut`'s start is at or below the module's initial block or `idx`'s boundary: it does not show in the maximum
  have hw : w.start ≤ max (mapInit env.fsb m.out) (idx * env.seg) := by
    rw [hstart]
    refine Nat.max_le.2 ⟨Nat.le_trans (lowestInit_le_out env.fsb m hg).2 (Nat.le_max_left _ _),
      Nat.le_trans (Nat.mul_le_mul_right _ (Nat.le_of_lt_succ (Nat.lt_of_mul_lt_mul_right (a := env.seg) ?_)))
        (Nat.le_max_right _ _)⟩
    rw [Nat.succ_mul]
    refine Nat.lt_of_le_of_lt (Nat.le_trans (hstart ▸ Nat.le_max_right _ _) ?_) hf
    split
    · exact Nat.le_of_lt ‹_›
    · exact Nat.le_refl _
  split
  · rfl
  · rename_i hle
    exact Nat.le_antisymm (Nat.max_le.2 ⟨hw, Nat.le_max_right _ _⟩)
      (Nat.max_le.2 ⟨Nat.le_trans (Nat.le_of_not_lt hle) (Nat.le_max_left _ _), Nat.le_max_right _ _⟩)

/-! ### (e) an impossible request is answered with an error, never with a plan -/

/-- What makes a request impossible, as far as the request itself, the chain state and the resolver's answer
show it (the prelude of `Tier1Service.blocks` and `BuildRequestDetails` check these, in this order). -/
inductive Impossible (env : Env) (req : Request) : Prop
  | startBelowFirstStreamable (h : 0 < req.startNum ∧ req.startNum < (env.fsb : Int))
  | headUnknown (h : req.startNum < 0 ∧ env.head = none ∧ ¬(req.stop > 0 ∧ (req.stop : Int) + req.startNum < env.fsb))
  | malformedCursor (h : req.cursor = .malformed)
  | cursorPastStop (c : Cursor) (hc : req.cursor = .some c) (h : 0 < req.stop ∧ req.stop < c.block.num)
  | libAboveBlock (c : Cursor) (hc : req.cursor = .some c) (h : c.lib.num > c.block.num)
  | unresolvable (c : Cursor) (hc : req.cursor = .some c) (h : c.block.num ≠ c.lib.num ∧ env.resolver = .error)
  | finalUnknownOpenEnded (h : req.production = true ∧ env.final = none ∧ req.stop = 0)

theorem impossible_is_error (h : Impossible env req) : ∃ e, tier1 env m req = .error e := by
  cases ht : tier1 env m req with
  | error e => exact ⟨e, rfl⟩
  | ok o =>
    exfalso
    obtain ⟨_, sn, hn, hb, _, _, _⟩ := tier1_ok ht
    obtain ⟨r, hr⟩ := buildRequestDetails_ok hb
    obtain ⟨sn', hneg, hpath⟩ := resolveStartBlockNum_ok hr.resolved
    simp only [] at hneg hpath
    cases h with
    | startBelowFirstStreamable h =>
      unfold normalizeStart at hn; rw [if_pos h] at hn; cases hn
    | headUnknown h =>
      obtain ⟨h1, h2, h3⟩ := h
      -- the prelude leaves the negative start block as it is, and `resolveNegativeStart` needs the head
      have : sn = req.startNum := by
        revert hn
        fun_cases normalizeStart env.fsb req.startNum req.stop
        case case1 => nofun
        case case2 _ hpos hlt => exact absurd ⟨hpos.2, hlt⟩ h3
        case case4 => omega
        all_goals exact fun hn => (Except.ok.inj hn).symm
      unfold resolveNegativeStart at hneg
      rw [this, if_pos h1, h2] at hneg
      cases hneg
    | malformedCursor h =>
      rw [h] at hpath
      rcases hpath with ⟨hc, _⟩ | ⟨_, hc, _⟩ <;> cases hc
    | cursorPastStop c hc h =>
      rw [hc] at hpath
      rcases hpath with ⟨hc, _⟩ | ⟨_, hc, hstop, _⟩ <;> cases hc
      exact hstop h
    | libAboveBlock c hc h =>
      rw [hc] at hpath
      rcases hpath with ⟨hc, _⟩ | ⟨_, hc, _, hlib, _⟩ <;> cases hc
      exact hlib h
    | unresolvable c hc h =>
      rw [hc] at hpath
      rcases hpath with ⟨hc, _⟩ | ⟨_, hc, _, _, hfin | ⟨_, _, _, hres, _⟩⟩ <;> cases hc
      · exact h.1 hfin.1
      · rw [h.2] at hres; cases hres
    | finalUnknownOpenEnded h =>
      apply hr.noError
      simp [computeLinearHandoffP, h.1, h.2.1, h.2.2]

/-- The impossible conditions that depend on the *resolved* start block: a plan is never produced for a start
block below the output module's initial block, below the lowest initial block of the graph, below the first
streamable block, or equal to a non-zero stop block. -/
theorem plan_implies_possible {o : Outcome} (h : tier1 env m req = .ok o) :
    m.out ≤ o.d.start ∧ mapInit env.fsb m.out ≤ o.d.start ∧ m.lowestInitBlock env.fsb ≤ o.d.start ∧
    env.fsb ≤ o.d.start ∧ ¬(o.d.start = req.stop ∧ req.stop ≠ 0) := by
  obtain ⟨hg, sn, _, _, hss, hv, hp⟩ := tier1_ok h
  have hli := (buildPlan_ok hp).le_start
  have hfsb := Nat.le_trans (lowestInit_le_out env.fsb m hg).1 hli
  exact ⟨hv, mapInit_eq_max ((graphOk_iff env.fsb m).1 hg).1 ▸ Nat.max_le.2 ⟨hfsb, hv⟩, hli, hfsb, hss⟩

/-! ### (f) cursors -/

/-- **Forked cursor.**  A well-formed, non-final cursor for which the resolver names a junction block whose
number differs from the cursor's block: the answer carries an undo signal whose last valid block is the
junction (with a `new` cursor on the junction, keeping the cursor's LIB and taking the resolver's head), and
processing restarts right after the junction, `j + 1` — whatever the cursor's own step was. -/
theorem forked_cursor (c : Cursor) (j head : BlockRef) (sn : Int)
    (hc : req.cursor = .some c) (hneg : resolveNegativeStart env.head req.startNum = .ok sn)
    (hstop : ¬(req.stop > 0 ∧ req.stop < c.block.num))
    (hnf : c.block.num ≠ c.lib.num) (hlib : ¬ c.lib.num > c.block.num)
    (hres : env.resolver = .ok (some j) head) (hj : j.num ≠ c.block.num) :
    resolveStartBlockNum env req =
      .ok ⟨j.num + 1, some ⟨.new, j, c.lib, head⟩, some ⟨j, ⟨.new, j, c.lib, head⟩⟩, .forked⟩ := by
  rw [resolveStartBlockNum_of_resolver hneg hc hstop hnf hlib, hres]
  exact if_pos hj

/-- The undo signal and the restart block reach the caller of `BuildRequestDetails` unchanged. -/
theorem forked_cursor_details (hd : buildRequestDetails env m req = .ok (d, u))
    (c : Cursor) (j head : BlockRef)
    (hc : req.cursor = .some c) (hstop : ¬(req.stop > 0 ∧ req.stop < c.block.num))
    (hnf : c.block.num ≠ c.lib.num) (hlib : ¬ c.lib.num > c.block.num)
    (hres : env.resolver = .ok (some j) head) (hj : j.num ≠ c.block.num) :
    u = some ⟨j, ⟨.new, j, c.lib, head⟩⟩ ∧ d.start = j.num + 1 ∧ d.rpath = .forked := by
  obtain ⟨r, hr⟩ := buildRequestDetails_ok hd
  obtain ⟨sn, hneg, _⟩ := resolveStartBlockNum_ok hr.resolved
  cases (forked_cursor c j head sn hc hneg hstop hnf hlib hres hj).symm.trans hr.resolved
  exact ⟨hr.undo, hr.start, hr.rpath⟩

/-- **Cursor on the canonical chain** (no junction, or a junction with the cursor's own block number): no undo
signal, the cursor is kept, and processing restarts after the cursor's block for a `new` cursor, at the
block itself for an `undo` cursor.  (A bare `irreversible` step matches neither case of the Go `switch` and
restarts at block 0 — modelled as the code behaves.) -/
theorem cursor_not_forked (c : Cursor) (oj : Option BlockRef) (head : BlockRef) (sn : Int)
    (hc : req.cursor = .some c) (hneg : resolveNegativeStart env.head req.startNum = .ok sn)
    (hstop : ¬(req.stop > 0 ∧ req.stop < c.block.num))
    (hnf : c.block.num ≠ c.lib.num) (hlib : ¬ c.lib.num > c.block.num)
    (hres : env.resolver = .ok oj head) (hj : ∀ j, oj = some j → j.num = c.block.num) :
    ∃ r, resolveStartBlockNum env req = .ok r ∧ r.undo = none ∧ r.cursor = some c ∧
      r.start = startOfCursor c ∧
      (c.step = .new ∨ c.step = .newIrreversible → r.start = c.block.num + 1) ∧
      (c.step = .undo → r.start = c.block.num) := by
  have hstart : (c.step = .new ∨ c.step = .newIrreversible → startOfCursor c = c.block.num + 1) ∧
      (c.step = .undo → startOfCursor c = c.block.num) := by
    constructor
    · rintro (h | h) <;> simp [startOfCursor, Step.matchesNew, h]
    · intro h; simp [startOfCursor, Step.matchesNew, Step.matchesUndo, h]
  cases oj with
  | none =>
    refine ⟨⟨startOfCursor c, some c, none, .noJunction⟩, ?_, rfl, rfl, rfl, hstart⟩
    rw [resolveStartBlockNum_of_resolver hneg hc hstop hnf hlib, hres]
  | some j =>
    refine ⟨⟨startOfCursor c, some c, none, .notForked⟩, ?_, rfl, rfl, rfl, hstart⟩
    rw [resolveStartBlockNum_of_resolver hneg hc hstop hnf hlib, hres]
    exact if_neg (fun h => h (hj j rfl))

/-- **Cursor on a final block** (`block = LIB`): restart at the next block, no undo signal, no cursor kept,
and the resolver is not consulted (the answer is the same for every resolver). -/
theorem final_cursor (c : Cursor) (sn : Int)
    (hc : req.cursor = .some c) (hneg : resolveNegativeStart env.head req.startNum = .ok sn)
    (hstop : ¬(req.stop > 0 ∧ req.stop < c.block.num)) (hfin : c.block.num = c.lib.num) :
    resolveStartBlockNum env req = .ok ⟨c.block.num + 1, none, none, .finalCursor⟩ := by
  simp only [resolveStartBlockNum, bind, Except.bind, hneg, hc]
  rw [if_neg hstop, if_pos hfin]

/-- An undo signal is sent only for a forked cursor, and always points at the junction the resolver named. -/
theorem undo_only_if_forked (hd : buildRequestDetails env m req = .ok (d, u)) (x : Undo)
    (hu : u = some x) :
    ∃ c j head, req.cursor = .some c ∧ env.resolver = .ok (some j) head ∧ j.num ≠ c.block.num ∧
      x.lastValid = j ∧ x.cursor = ⟨.new, j, c.lib, head⟩ ∧ d.start = j.num + 1 := by
  obtain ⟨r, hr⟩ := buildRequestDetails_ok hd
  have hu : r.undo = some x := hr.undo ▸ hu
  obtain ⟨_, _, ⟨_, rfl⟩ | ⟨c, hc, _, _, ⟨_, rfl⟩ | ⟨_, oj, head, hres, ⟨_, rfl⟩ |
    ⟨j, rfl, ⟨_, rfl⟩ | ⟨hj, rfl⟩⟩⟩⟩⟩ := resolveStartBlockNum_ok hr.resolved <;> cases hu
  exact ⟨c, j, head, hc, hres, hj, rfl, rfl, hr.start⟩

/-! ### Non-vacuity: concrete, non-trivial instances (the first is DESIGN §9's F8 witness — stores at 12 and
22 in both module orders, start 25, segment 10 — which gives hand-off 20 and `BuildStores = [12,20)`). -/

def envEx : Env := ⟨10, 0, some 100, none, .error⟩

example : (tier1 envEx ⟨[12, 22], 0, false⟩ ⟨25, .none, 0, false⟩).toOption.map (fun o => (o.d.handoff, o.plan.buildStores))
    = some (20, some ⟨12, 20⟩) := by decide +kernel
example : (tier1 envEx ⟨[22, 12], 0, false⟩ ⟨25, .none, 0, false⟩).toOption.map (fun o => (o.d.handoff, o.plan.buildStores))
    = some (20, some ⟨12, 20⟩) := by decide +kernel
/-- production: stores back-filled to the final block's boundary, cached outputs read for `[25,47)` -/
example : (tier1 envEx ⟨[12, 22], 5, false⟩ ⟨25, .none, 47, true⟩).toOption.map
    (fun o => (o.d.handoff, o.plan.buildStores, o.plan.writeExecOut, o.plan.readExecOut, o.plan.linear))
    = some (50, some ⟨12, 50⟩, some ⟨20, 50⟩, some ⟨25, 47⟩, none) := by decide +kernel
/-- a unit of the map stage and the range tier 2 recomputes for it -/
example : (tier1 envEx ⟨[12, 22], 5, false⟩ ⟨25, .none, 47, true⟩).toOption.map
    (fun o => o.plan.unitOutcome .map 5 2) = some (.job (tier2Range 10 0 2 5)) := by decide +kernel
/-- a forked cursor: undo signal for the junction 18, restart at 19 -/
example : (tier1 ⟨10, 0, none, none, .ok (some ⟨18, 0⟩) ⟨25, 0⟩⟩ ⟨[], 0, false⟩
      ⟨0, .some ⟨.new, ⟨20, 1⟩, ⟨15, 0⟩, ⟨20, 1⟩⟩, 30, false⟩).toOption.map (fun o => (o.d.start, o.undo.map (·.lastValid)))
    = some (19, some ⟨18, 0⟩) := by decide +kernel
/-- an output module of kind store (initial block 3, no other store), development mode, start 13, segment 5: the
output store is itself a required store, so the hand-off is the boundary 10 and `BuildStores = [3,10)` (were
it left out of `reprocStateRequired`, the hand-off would be 13 and `BuildStores = [3,13)`, off the boundary). -/
example : (tier1 ⟨5, 0, none, none, .error⟩ ⟨[], 3, true⟩ ⟨13, .none, 0, false⟩).toOption.map
    (fun o => (o.d.handoff, o.plan.buildStores)) = some (10, some ⟨3, 10⟩) := by decide +kernel
/-- an impossible request -/
example : Impossible envEx ⟨25, .none, 0, true⟩ → True := fun _ => trivial
example : Impossible ⟨10, 0, none, none, .error⟩ ⟨25, .none, 0, true⟩ := .finalUnknownOpenEnded ⟨rfl, rfl, rfl⟩

end SV.C12
