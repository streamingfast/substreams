import Lemmas.Segmenter
import Lemmas.Compose
/-!
# C13 — Segments tile every block range exactly

Property theorems only (helper lemmas are in `Lemmas/Segmenter.lean` and, for the whole walk, in
`Lemmas/Compose.lean`; the model is `Model/Segmenter.lean`).  All statements are for **every** segment size
`interval > 0`, initial block and end block with `init < end_` (no bound), every index, every block.
-/
namespace SV.C13
open SV SV.Segmenter

variable (s : Segmenter)

/-- A segment exists exactly for the indexes between the first and the last one; indexes outside the
range yield no segment. -/
theorem range_isSome_iff (hk : 0 < s.interval) (hlt : s.init < s.end_) (i : Nat) :
    (s.range? i).isSome ↔ (s.firstIndex ≤ i ∧ i ≤ s.lastIndex) := by
  rw [Option.isSome_iff_exists, firstIndex_le_iff s hk, le_lastIndex_iff s hk (Nat.zero_lt_of_lt hlt)]
  exact ⟨fun ⟨_, h⟩ => ((range?_eq_some_iff s hk hlt).1 h).1,
    fun h => ⟨_, (range?_eq_some_iff s hk hlt).2 ⟨h, rfl⟩⟩⟩

/-- Closed form: segment `i` is `[max(init, i·k), min((i+1)·k, end))` — the range a tier-2 job
recomputes from `(segment number, segment size)`. -/
theorem range_closed_form (hk : 0 < s.interval) (hlt : s.init < s.end_) (i : Nat)
    (h1 : s.firstIndex ≤ i) (h2 : i ≤ s.lastIndex) :
    s.range? i = some ⟨max s.init (i * s.interval), min ((i + 1) * s.interval) s.end_⟩ :=
  range?_eq s hk hlt i h1 h2

/-- Segments are non-empty. -/
theorem range_nonempty (hk : 0 < s.interval) (hlt : s.init < s.end_) (i : Nat) (r : Range)
    (h : s.range? i = some r) : r.start < r.stop := by
  obtain ⟨⟨hf, hl⟩, rfl⟩ := (range?_eq_some_iff s hk hlt).1 h
  exact Nat.max_lt.2 ⟨Nat.lt_min.2 ⟨hf, hlt⟩, Nat.lt_min.2 ⟨Nat.lt_add_of_pos_right hk, hl⟩⟩

/-- The first segment starts at the initial block, the last one ends at the end block. -/
theorem range_first_start (hk : 0 < s.interval) (hlt : s.init < s.end_) :
    ∃ r, s.range? s.firstIndex = some r ∧ r.start = s.init := by
  refine ⟨_, range?_eq s hk hlt _ (Nat.le_refl _) (first_le_last s hk hlt), ?_⟩
  exact Nat.max_eq_left (Nat.div_mul_le_self _ _)

theorem range_last_end (hk : 0 < s.interval) (hlt : s.init < s.end_) :
    ∃ r, s.range? s.lastIndex = some r ∧ r.stop = s.end_ := by
  refine ⟨_, range?_eq s hk hlt _ (first_le_last s hk hlt) (Nat.le_refl _), ?_⟩
  exact Nat.min_eq_right (end_le_last_succ_mul s hk (by omega))

/-- Consecutive segments are contiguous: no gap, no overlap. -/
theorem range_contiguous (hk : 0 < s.interval) (hlt : s.init < s.end_) (i : Nat) (r r' : Range)
    (h : s.range? i = some r) (h' : s.range? (i + 1) = some r') : r'.start = r.stop := by
  obtain ⟨⟨hf, _⟩, rfl⟩ := (range?_eq_some_iff s hk hlt).1 h
  obtain ⟨⟨_, hl'⟩, rfl⟩ := (range?_eq_some_iff s hk hlt).1 h'
  rw [Nat.succ_mul] at hl' ⊢
  exact (Nat.max_eq_right (Nat.le_of_lt hf)).trans (Nat.min_eq_left (Nat.le_of_lt hl')).symm

/-- Segments start and end on multiples of the segment size, except at the two ends. -/
theorem range_aligned (hk : 0 < s.interval) (hlt : s.init < s.end_) (i : Nat) (r : Range)
    (h : s.range? i = some r) :
    (s.firstIndex < i → r.start % s.interval = 0) ∧ (i < s.lastIndex → r.stop % s.interval = 0) := by
  obtain ⟨_, rfl⟩ := (range?_eq_some_iff s hk hlt).1 h
  refine ⟨fun hgt => ?_, fun hlt' => ?_⟩
  · show max s.init (i * s.interval) % s.interval = 0
    rw [Nat.max_eq_right (Nat.le_of_lt ((firstIndex_lt_iff s hk).1 hgt))]
    exact Nat.mul_mod_left _ _
  · show min (i * s.interval + s.interval) s.end_ % s.interval = 0
    rw [← Nat.succ_mul, Nat.min_eq_left (Nat.le_of_lt (succ_mul_lt_end s hk i hlt'))]
    exact Nat.mul_mod_left _ _

/-- **Tiling.** Every block of `[init, end)` lies in the segment designated by the index computed for
it as a start block … -/
theorem tiling_exists (hk : 0 < s.interval) (hlt : s.init < s.end_) (b : Nat)
    (h1 : s.init ≤ b) (h2 : b < s.end_) :
    ∃ r, s.range? (s.indexForStartBlock b) = some r ∧ r.contains b = true := by
  have a := Nat.div_mul_le_self b s.interval
  have c := lt_div_succ_mul b s.interval hk
  rw [Nat.succ_mul] at c
  refine ⟨_, (range?_eq_some_iff s hk hlt).2
    ⟨⟨Nat.lt_of_le_of_lt h1 c, Nat.lt_of_le_of_lt a h2⟩, rfl⟩,
    (Range.contains_iff _ _).2 ⟨Nat.max_le.2 ⟨h1, a⟩, Nat.lt_min.2 ⟨c, h2⟩⟩⟩

/-- … and in no other segment (disjointness); blocks outside `[init, end)` lie in none. -/
theorem tiling_unique (hk : 0 < s.interval) (hlt : s.init < s.end_) (b i : Nat) (r : Range)
    (h : s.range? i = some r) (hc : r.contains b = true) :
    i = s.indexForStartBlock b ∧ s.init ≤ b ∧ b < s.end_ := by
  obtain ⟨_, rfl⟩ := (range?_eq_some_iff s hk hlt).1 h
  obtain ⟨hc1, hc2⟩ := (Range.contains_iff _ _).1 hc
  obtain ⟨h1, h2⟩ := Nat.max_le.1 hc1
  obtain ⟨h3, h4⟩ := Nat.lt_min.1 hc2
  exact ⟨((div_eq_iff' b s.interval i hk).2 ⟨h2, Nat.succ_mul .. ▸ h3⟩).symm, h1, h4⟩

/-- The index computed for an (exclusive) end block designates the segment containing the last block
before it. -/
theorem index_for_end_block (hk : 0 < s.interval) (hlt : s.init < s.end_) (e : Nat)
    (h1 : s.init < e) (h2 : e ≤ s.end_) :
    ∃ r, s.range? (s.indexForEndBlock e) = some r ∧ r.contains (e - 1) = true :=
  tiling_exists s hk hlt (e - 1) (Nat.le_sub_one_of_lt h1) (by omega)

/-- `Count` is the number of indexes that have a segment. -/
theorem count_eq (hk : 0 < s.interval) (hlt : s.init < s.end_) :
    s.count = (((List.range (s.lastIndex + 1)).filter (fun i => (s.range? i).isSome)).length : Int) := by
  have hfl := first_le_last s hk hlt
  -- below the first index nothing, from there to the last index everything
  have hlow : (List.range' 0 s.firstIndex).filter (fun i => (s.range? i).isSome) = [] :=
    List.filter_eq_nil_iff.2 fun i hi => by
      rw [range?_none_low s i (by simpa using hi)]; nofun
  have hhigh : (List.range' s.firstIndex (s.lastIndex + 1 - s.firstIndex)).filter
      (fun i => (s.range? i).isSome) = List.range' s.firstIndex (s.lastIndex + 1 - s.firstIndex) :=
    List.filter_eq_self.2 fun i hi => by
      obtain ⟨h1, h2⟩ := List.mem_range'_1.1 hi
      rw [range?_eq s hk hlt i h1 (by omega)]; rfl
  rw [List.range_eq_range', show s.lastIndex + 1 = s.firstIndex + (s.lastIndex + 1 - s.firstIndex) by omega,
    ← List.range'_append_1, List.filter_append, hlow, Nat.zero_add, hhigh, List.nil_append,
    List.length_range', count]
  omega

/-- `EndsOnInterval` answers whether the segment's end is a multiple of the segment size (and is
defined for every existing segment). -/
theorem ends_on_interval (hk : 0 < s.interval) (hlt : s.init < s.end_) (i : Nat) (r : Range)
    (h : s.range? i = some r) : s.endsOnInterval i = some (r.stop % s.interval == 0) := by
  have hi := (range_isSome_iff s hk hlt i).1 (by rw [h]; rfl)
  unfold endsOnInterval
  have : ¬ i > s.lastIndex := by omega
  simp [this, h]

/-- **Split.** The chunks of a non-empty range are non-empty, contiguous, go from its start to its end
(so they cover exactly its blocks), … -/
theorem split_tiles (r : Range) (chunk : Nat) (hc : 0 < chunk) (hr : r.start < r.stop) :
    Tiles (r.split chunk) r.start r.stop :=
  (r.split_spec chunk hc hr).1

/-- … each at most `chunk` long, with every interior cut on a multiple of `chunk`. -/
theorem split_sizes_cuts (r : Range) (chunk : Nat) (hc : 0 < chunk) (hr : r.start < r.stop) :
    (∀ x ∈ r.split chunk, x.size ≤ chunk) ∧
    (∀ x ∈ r.split chunk, x.stop = r.stop ∨ x.stop % chunk = 0) :=
  (r.split_spec chunk hc hr).2

/-- Splitting preserves the set of covered blocks, and the chunks are pairwise disjoint. -/
theorem split_covers (r : Range) (chunk : Nat) (hc : 0 < chunk) (hr : r.start < r.stop) (x : Nat) :
    Covers (r.split chunk) x ↔ r.contains x = true :=
  ((split_tiles r chunk hc hr).cover x).trans (r.contains_iff x).symm

theorem split_disjoint (r : Range) (chunk : Nat) (hc : 0 < chunk) (hr : r.start < r.stop) :
    (r.split chunk).Pairwise (fun r1 r2 => r1.stop ≤ r2.start) :=
  (split_tiles r chunk hc hr).ordered.1

/-- **Merged / MergedBuckets** preserve the set of covered blocks (for lists of well-formed ranges,
`start ≤ end`, in any order). -/
theorem merged_covers (l : List Range) (hwf : WF l) (x : Nat) : Covers (merged l) x ↔ Covers l x :=
  (merged_spec l hwf).2 x

theorem mergedBuckets_covers (m : Nat) (l : List Range) (hwf : WF l) (x : Nat) :
    Covers (mergedBuckets m l) x ↔ Covers l x :=
  (mergedBuckets_spec m l hwf).2 x

/-! ### The whole walk: `Range(idx)` for `idx = FirstIndex() … LastIndex()` -/

/-- **"non-empty, contiguous, disjoint … their union is exactly [initial, end)"**, as one statement about the
list every consumer of a segmenter walks (`Segmenter.segments`): it is a chain of non-empty ranges, the
first starting at `init`, each starting where the previous one stops, the last stopping at `end_`. -/
theorem segments_tile (hk : 0 < s.interval) (hlt : s.init < s.end_) : Tiles s.segments s.init s.end_ :=
  segments_tiles s hk hlt

/-- hence the blocks listed segment after segment are exactly `init, init+1, …, end_-1`: every block once,
in increasing order (this is the form the C02 and C01 composition theorems use). -/
theorem segments_list_every_block_once (hk : 0 < s.interval) (hlt : s.init < s.end_) :
    (s.segments.map Range.blocks).flatten = List.range' s.init (s.end_ - s.init) :=
  segments_blocks s hk hlt

/-- and the segment sizes add up to the size of the range. -/
theorem segments_sizes_sum (hk : 0 < s.interval) (hlt : s.init < s.end_) :
    (s.segments.map Range.size).sum = s.end_ - s.init :=
  Segmenter.segments_sizes s hk hlt

/-! ### Non-vacuity: the hypotheses are met by concrete non-trivial instances, and the functions
compute what the repository's own tests expect. -/

example : (⟨10, 5, 47⟩ : Segmenter).range? 0 = some ⟨5, 10⟩ ∧
    (⟨10, 5, 47⟩ : Segmenter).range? 4 = some ⟨40, 47⟩ ∧
    (⟨10, 5, 47⟩ : Segmenter).range? 5 = none ∧ (⟨10, 5, 47⟩ : Segmenter).count = 5 := by decide +kernel
example : (0:Nat) < (⟨10, 5, 47⟩ : Segmenter).interval ∧ (⟨10, 5, 47⟩ : Segmenter).init < 47 := by decide +kernel
example : (⟨10, 5, 47⟩ : Segmenter).segments = [⟨5, 10⟩, ⟨10, 20⟩, ⟨20, 30⟩, ⟨30, 40⟩, ⟨40, 47⟩] := by decide +kernel
example : (⟨3, 11⟩ : Range).split 4 = [⟨3, 4⟩, ⟨4, 8⟩, ⟨8, 11⟩] := by decide +kernel
example : WF [⟨1, 3⟩, ⟨3, 5⟩, ⟨7, 9⟩] := by unfold WF; decide

end SV.C13
