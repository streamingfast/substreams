import Model.Graph
import Lemmas.Graph
/-!
# C14 — Execution stages respect every module dependency

Property (properties.jsonl): *for any valid module graph, each module needed for the requested output
is placed in exactly one execution layer, strictly after the layers of every map, store and
block-index module it reads from, and modules not needed for that output are left out.  A layer
contains only stores or only non-stores, every store layer closes a stage, a module is never given an
initial block at which none of its inputs exists, and staging terminates.*

The theorems are about `SV.Graph.computeGraph mods out prod fsb`, the model of
`exec.NewOutputModuleGraph(out, prod, &Modules{mods}, fsb)` (`lean/Model/Graph.lean`), for **every**
module list `mods`, output name `out`, mode and first streamable block — no bound on sizes.

## Hypotheses, and the Go check that establishes each

* `validated mods = true` — `manifest.ValidateModules`, run by `service.ValidateTier1Request` /
  `ValidateTier2Request` before `NewOutputModuleGraph`.  The theorems use three consequences
  (`validated_spec`):
  - module names are pairwise distinct        — "module %q: duplicate module name";
  - no module is named `""`                    — the module-name regular expression;
  - every map input, store input and block filter names a module of the package
    (`refsResolve`)                            — checkValidInputs "… input named %q not found",
                                                 checkValidBlockFilter "block filter module %q not found".
* the module graph is acyclic (`acyclicB`)     — `NewModuleGraph`: "modules graph has a cycle".  It is
  not a hypothesis below: `computeGraph` answers `error cycle` itself, so an `ok` answer implies it.
* the output module exists                     — `ModulesDownTo`: "could not find module"; likewise
  implied by an `ok` answer.
No other hypothesis is needed.  (The model mirrors `NewModuleGraph` after the commit "fix: a params value or
source type spelled like a module name is not a graph dependency": an edge is added for map inputs, store
inputs and the block filter only.  With an edge for a *source type* or *params value* spelled like a module
name, "modules not needed are left out" fails; the two packages that show it are the regression examples at
the end of this file, and the harness keeps the oracle class `C14/input-value-taken-as-module-ref`.)

External library behaviour assumed (checks/C14.json): `graph.Acyclic` decides acyclicity,
`graph.ShortestPaths` distance ≥ 0 is reachability, `graph.TopSort` only orders lists (the theorems
are about sets of modules per layer).
-/
namespace SV.C14
open SV.Graph

variable {mods : List Module} {out : String} {prod : Bool} {fsb : Nat} {g : GraphOut}

/-- *staging terminates*, at the level of the loop: on the module list `ModulesDownTo` returns, the
layering loop of `computeStages` stops (with layers or with the "no input" error) within the
`2·n+2` iterations the model grants it, whatever the initial blocks. -/
theorem layering_terminates (hv : validated mods = true) (ha : acyclicB mods = true)
    (ho : out ∈ names mods) (init : String → Nat) :
    computeLayers (usedOf mods out) init ≠ .hang := by
  obtain ⟨hn, he, hr⟩ := validated_spec hv
  have hu : (names (usedOf mods out)).Nodup := nodup_names_filter hn _
  exact loop_no_hang hu (used_ranked hn he hr ha ho) _ 0 [] [] (Inv.init _ _)
    (.inl (by simp only [stagesFuel, List.length_nil]; omega))

/-- *the fuel suffices*: any larger number of iterations gives the same answer, so the model's answer
is the answer of Go's unbounded `for i := 0; ; i++`. -/
theorem fuel_suffices (hv : validated mods = true) (ha : acyclicB mods = true)
    (ho : out ∈ names mods) (init : String → Nat) (extra : Nat) :
    stagesLoop (usedOf mods out) init (stagesFuel (usedOf mods out) + extra) 0 [] [] =
      computeLayers (usedOf mods out) init :=
  loop_fuel_mono _ extra 0 [] [] (layering_terminates hv ha ho init)

/-- *staging terminates*: on a validated package `NewOutputModuleGraph` returns (a graph or an error);
it never spins. -/
theorem stages_terminate (hv : validated mods = true) : computeGraph mods out prod fsb ≠ .hang := by
  intro h
  obtain ⟨ha, ho, hi⟩ := computeGraph_pre (fun e he => by rw [h] at he; cases he)
  rcases computeGraph_eq prod ha ho hi with ⟨g, hg, _⟩ | ⟨_, hl⟩ | ⟨hg, _⟩
  · cases h.symm.trans hg
  · exact layering_terminates hv ha ho _ hl
  · cases h.symm.trans hg

/-- the production path (`ValidateModules`, then `NewOutputModuleGraph`) always returns -/
theorem validate_then_graph_terminates (mods : List Module) (out : String) (prod : Bool) (fsb : Nat) :
    validateThenGraph mods out prod fsb ≠ .hang := by
  unfold validateThenGraph
  by_cases hv : validated mods = true
  · simp only [hv, if_true]; exact stages_terminate hv
  · simp [hv]

/-- `UsedModules()` is the set of modules reachable from the output module in the graph
`NewModuleGraph` builds. -/
theorem used_eq_graph_closure (h : computeGraph mods out prod fsb = .ok g) (m : Module) :
    m ∈ g.used ↔ m ∈ mods ∧ GraphReach mods out m.name := by
  obtain ⟨ha, ho, hused, _⟩ := computeGraph_ok h
  rw [hused]
  exact mem_usedOf ha ho

/-- *each module needed for the requested output is staged*: every transitive map / store /
block-filter dependency of the output module is in `UsedModules()`. -/
theorem needed_subset_used (hv : validated mods = true) (h : computeGraph mods out prod fsb = .ok g)
    {m : Module} (hm : m ∈ mods) (hneed : Needs mods out m.name) : m ∈ g.used := by
  obtain ⟨hn, he, _⟩ := validated_spec hv
  exact (used_eq_graph_closure h m).2 ⟨hm, Star.mono (depEdge_graphEdge hn he) hneed⟩

/-- *…and modules not needed for that output are left out*: `UsedModules()` is exactly the ancestor
closure of the output module under map, store (get / deltas) and block-filter references. -/
theorem used_eq_needed (hv : validated mods = true)
    (h : computeGraph mods out prod fsb = .ok g) (m : Module) :
    m ∈ g.used ↔ m ∈ mods ∧ Needs mods out m.name := by
  constructor
  · intro hm
    obtain ⟨hm, hr⟩ := (used_eq_graph_closure h m).1 hm
    exact ⟨hm, Star.mono graphEdge_depEdge hr⟩
  · rintro ⟨hm, hneed⟩
    exact needed_subset_used hv h hm hneed

/-- the layers partition `UsedModules()`. -/
theorem layers_partition_used (hv : validated mods = true) (h : computeGraph mods out prod fsb = .ok g) :
    (∀ m, (∃ l ∈ g.layers, m ∈ l) ↔ m ∈ g.used) ∧ (names g.layers.flatten).Nodup := by
  obtain ⟨hinv, hall⟩ := accepted hv h
  exact ⟨fun m => List.mem_flatten.symm.trans ⟨hinv.sub m, hall m⟩, hinv.nodup⟩

/-- *each module needed for the requested output is placed in exactly one execution layer … and
modules not needed for that output are left out*: the layers contain exactly the modules of the
ancestor closure of the output module, each name once over all layers (so a module is in one layer
and occurs once in it). -/
theorem each_used_once (hv : validated mods = true)
    (h : computeGraph mods out prod fsb = .ok g) :
    (∀ m, (∃ l ∈ g.layers, m ∈ l) ↔ (m ∈ mods ∧ Needs mods out m.name)) ∧
    (names g.layers.flatten).Nodup := by
  obtain ⟨hall, hnd⟩ := layers_partition_used hv h
  exact ⟨fun m => (hall m).trans (used_eq_needed hv h m), hnd⟩

/-- *exactly one layer*, in index form: a module name occurring in layers `j` and `k` forces `j = k`. -/
theorem in_one_layer (hv : validated mods = true) (h : computeGraph mods out prod fsb = .ok g)
    {j k : Nat} {a b : List Module} {n : String} (hj : g.layers[j]? = some a) (hk : g.layers[k]? = some b)
    (ha : n ∈ names a) (hb : n ∈ names b) : j = k :=
  layer_unique (accepted hv h).1.nodup hj hk ha hb

/-- *strictly after the layers of every map, store and block-index module it reads from*: for a
module `m` of layer `j`, every module named by a map input, a store input in `get` or `deltas` mode,
or the block filter of `m` sits in a layer `k < j`. -/
theorem deps_strictly_earlier (hv : validated mods = true) (h : computeGraph mods out prod fsb = .ok g)
    {j : Nat} {l : List Module} (hj : g.layers[j]? = some l) {m : Module} (hm : m ∈ l) {d : String}
    (hd : Input.map d ∈ m.inputs ∨ Input.store d .get ∈ m.inputs ∨ Input.store d .deltas ∈ m.inputs ∨
          m.blockFilter = some d) :
    ∃ (k : Nat) (l' : List Module), k < j ∧ g.layers[k]? = some l' ∧ ∃ m' ∈ l', m'.name = d := by
  have hdep : d ∈ m.deps := by
    rcases hd with hd | hd | hd | hd
    · exact mem_deps.2 (.inl (.inl hd))
    · exact mem_deps.2 (.inl (.inr ⟨_, hd⟩))
    · exact mem_deps.2 (.inl (.inr ⟨_, hd⟩))
    · exact mem_deps.2 (.inr hd)
  obtain ⟨k, l', hk, hl', hdl⟩ := (accepted hv h).1.ordered j l hj m hm d hdep
  exact ⟨k, l', hk, hl', mem_names.1 hdl⟩

/-- *a layer contains only stores or only non-stores* (and is never empty, so Go's
`IsStoreLayer() = l[0].GetKindStore() != nil` is well defined and speaks for the whole layer). -/
theorem layer_homogeneous (hv : validated mods = true) (h : computeGraph mods out prod fsb = .ok g)
    {l : List Module} (hl : l ∈ g.layers) :
    l ≠ [] ∧ ((∀ m ∈ l, m.kind = .store) ∨ (∀ m ∈ l, m.kind ≠ .store)) ∧
    (isStoreLayer l = true ↔ ∀ m ∈ l, m.kind = .store) := by
  have hinv := (accepted hv h).1
  have hne := hinv.nonempty l hl
  have hh := hinv.homog l hl
  refine ⟨hne, hh.imp (fun hs m hm => isStore_iff.1 (hs m hm))
    (fun hs m hm hk => Bool.false_ne_true ((hs m hm).symm.trans (isStore_iff.2 hk))), ?_⟩
  rw [isStoreLayer_iff hne hh]
  exact forall_congr' fun m => imp_congr_right fun _ => isStore_iff

/-- *every store layer closes a stage*: the stages are the layers, in order, cut after each store
layer — concatenating the stages gives back the layers, no stage is empty, a store layer is always
the last layer of its stage, and every stage except the last one ends with a store layer. -/
theorem store_layer_closes_stage (h : computeGraph mods out prod fsb = .ok g) :
    g.stages.flatten = g.layers ∧
    (∀ st ∈ g.stages, st ≠ []) ∧
    (∀ st ∈ g.stages, ∀ (k : Nat) (l : List Module), st[k]? = some l → isStoreLayer l = true →
        k + 1 = st.length) ∧
    (∀ (j : Nat) (st : List (List Module)), g.stages[j]? = some st → j + 1 < g.stages.length →
        ∃ l, st.getLast? = some l ∧ isStoreLayer l = true) := by
  obtain ⟨_, _, _, _, _, _, hst⟩ := computeGraph_ok h
  obtain ⟨hok, hfl⟩ := groupStages_ok g.layers [] (by simp)
  rw [hst]
  refine ⟨?_, hok.nonempty, hok.storeLast, hok.closed⟩
  by_cases hl : g.layers = []
  · rw [hl]; simp [groupStages]
  · simpa using hfl hl

/-! ## the initial-block rule

What `computeStages` enforces, read off the code: a module is accepted when **at least one** of its
inputs exists at the module's initial block, where a source always exists, a params input counts only
when it is the module's sole input, and a map / store input exists when the initial block of the
module it names is not above the module's own; initial block 0 means "first streamable block".  A
module without any input, or with params plus only later-starting modules, is refused. -/

def InputExistsAt (init : String → Nat) (m : Module) (i : Input) : Prop :=
  match i with
  | .source _ => True
  | .params _ => m.inputs.length = 1
  | .map d => init d ≤ init m.name
  | .store d _ => init d ≤ init m.name

theorem hasInputAt_iff (init : String → Nat) (m : Module) :
    hasInputAt init m = true ↔ ∃ i ∈ m.inputs, InputExistsAt init m i := by
  have key : ∀ i, inputAvailable init m i = true ↔ InputExistsAt init m i := by
    intro i; cases i <;> simp [inputAvailable, InputExistsAt]
  unfold hasInputAt
  rw [List.any_eq_true]
  exact exists_congr fun i => and_congr_right fun _ => key i

/-- *a module is never given an initial block at which none of its inputs exists*: in an accepted
graph every staged module starts at or after the first streamable block (0 resolved to it) and has an
input that exists at its resolved initial block. -/
theorem init_block_has_input (hv : validated mods = true) (h : computeGraph mods out prod fsb = .ok g)
    {m : Module} (hm : m ∈ g.used) :
    initOf g.initBlocks m.name = resolvedInit fsb m ∧ fsb ≤ resolvedInit fsb m ∧
    ∃ i ∈ m.inputs, InputExistsAt (initOf g.initBlocks) m i := by
  obtain ⟨hinv, hall⟩ := accepted hv h
  obtain ⟨_, _, _, hinit, htbl, _, _⟩ := computeGraph_ok h
  refine ⟨by rw [htbl]; exact initOf_table fsb (used_names_nodup hv h) hm, ?_, ?_⟩
  · unfold resolvedInit
    rcases hinit m hm with h0 | h0
    · simp [h0]
    · by_cases hz : m.initialBlock = 0 <;> simp [hz]; exact h0
  · exact (hasInputAt_iff _ m).1 (hinv.valid m (hall m hm))

/-- …*else an error is returned*: on a validated, acyclic package with an existing output module,
`NewOutputModuleGraph` succeeds **iff** every module of `ModulesDownTo(out)` starts at or after the
first streamable block and has an input existing at its initial block.  (Otherwise the answer is the
error `initBelowFirst`, "initial block smaller than first streamable block", or `noInput`, "has no input
available at its initial block": `computeGraph_pre`, `computeGraph_eq`, `layering_terminates`.) -/
theorem accepted_iff (hv : validated mods = true) (ha : acyclicB mods = true) (ho : out ∈ names mods) :
    (∃ g, computeGraph mods out prod fsb = .ok g) ↔
      ∀ m ∈ usedOf mods out, (m.initialBlock = 0 ∨ fsb ≤ m.initialBlock) ∧
        ∃ i ∈ m.inputs, InputExistsAt (initOf (initTable fsb (usedOf mods out))) m i := by
  constructor
  · rintro ⟨g, h⟩ m hm
    obtain ⟨_, _, hused, hinit, htbl, _, _⟩ := computeGraph_ok h
    rw [← hused] at hm ⊢
    rw [← htbl]
    exact ⟨hinit m hm, (init_block_has_input hv h hm).2.2⟩
  · intro hall
    rcases computeGraph_eq prod ha ho (fun m hm => (hall m hm).1) with ⟨g, hg, _⟩ | ⟨_, hl⟩ | ⟨_, hl⟩
    · exact ⟨g, hg⟩
    · exact absurd hl (layering_terminates hv ha ho _)
    · obtain ⟨m, hm, hno⟩ := loop_noInput _ _ _ _ hl
      have := (hasInputAt_iff _ m).2 (hall m hm).2
      rw [hno] at this; cases this

/-! ## the hypotheses are satisfiable: concrete instances -/

def src : Input := .source "sf.test.v1.Block"

/-- seventh graph of pipeline/exec/graph_test.go with real initial blocks: an index `a`, maps filtered
by it, stores read in both modes, a params-only module and a clock-only module -/
def sample : List Module := [
  ⟨"a", .index, [src], none, 0⟩,
  ⟨"b", .map, [src], none, 5⟩,
  ⟨"d", .map, [src, .store "c" .get], some "a", 5⟩,
  ⟨"c", .store, [.map "b"], none, 5⟩,
  ⟨"e", .map, [.store "c" .deltas, .map "p"], none, 7⟩,
  ⟨"f", .map, [.map "e", .store "g" .get], some "a", 9⟩,
  ⟨"g", .store, [.map "d", .map "e", .map "k"], none, 7⟩,
  ⟨"p", .map, [.params "x=1"], none, 0⟩,
  ⟨"k", .map, [.source "sf.substreams.v1.Clock"], none, 0⟩,
  ⟨"z", .store, [src], none, 0⟩]

example : validated sample = true := by decide +kernel
example : acyclicB sample = true := by decide +kernel
/-- it is accepted, in 5 layers / 3 stages; `z` is left out -/
example : (match computeGraph sample "f" true 2 with
    | .ok g => g.stages.map (fun st => st.map names)
    | _ => []) = [[["a", "b", "p", "k"], ["c"]], [["d", "e"], ["g"]], [["f"]]] := by decide +kernel
/-- the init-block rule rejects: `e` starts at 3, before the only module it reads (`b`, at 5) -/
example : (match computeGraph [⟨"b", .map, [src], none, 5⟩, ⟨"e", .map, [.map "b"], none, 3⟩] "e" true 2 with
    | .error .noInput => true
    | _ => false) = true := by decide +kernel

/-! ## regression examples: a params value / source type spelled like a module name

Regression witnesses for the fix in `manifest/graph.go`: with an edge for a params value or source type
spelled like a module name, the store `b` of the first package is staged (in a stage of its own) although
nothing reads it, and the second — a valid single-module package — is refused with "modules graph has a
cycle". -/

/-- `a` takes the *string* "b" as its params value and has a source whose type is spelled "b"; the
store `b` is not read by anything -/
def collision : List Module := [
  ⟨"a", .map, [.params "b", src, .source "b"], none, 0⟩,
  ⟨"b", .store, [src], none, 0⟩]

/-- the package passes validation and only `a` is staged -/
example : validated collision = true ∧
    (match computeGraph collision "a" true 0 with
      | .ok g => g.stages.map (fun st => st.map names)
      | _ => []) = [[["a"]]] := by
  refine ⟨by decide +kernel, by decide +kernel⟩

/-- `a` indeed does not need `b` (so `used_eq_needed` leaves `b` out) -/
example : ¬ Needs collision "a" "b" := by
  have key : ∀ x, Needs collision "a" x → x = "a" := by
    intro x hx
    induction hx with
    | refl => rfl
    | step _ he ih =>
      subst ih
      obtain ⟨m, hm, hn, hd, _⟩ := he
      simp only [collision, List.mem_cons, List.not_mem_nil, or_false] at hm
      rcases hm with rfl | rfl
      · simp [Module.deps, Input.dep?, src] at hd
      · simp at hn
  intro h
  exact absurd (key _ h) (by decide)

/-- a module whose params value is its own name is accepted (regression example for the oracle class
`C14/input-value-taken-as-module-ref`) -/
example : (match validateThenGraph [⟨"a", .map, [.params "a", src], none, 0⟩] "a" true 0 with
    | .ok g => g.stages.map (fun st => st.map names)
    | _ => []) = [[["a"]]] := by decide +kernel

/-- without `ValidateModules` a dangling reference makes `computeStages` spin: the model runs out of
fuel (why the harness never feeds such a package to `NewOutputModuleGraph` directly) -/
example : (match computeGraph [⟨"x", .map, [.map "ghost"], none, 0⟩] "x" false 0 with
    | .hang => true
    | _ => false) = true := by decide +kernel

end SV.C14
