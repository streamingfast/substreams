import Lemmas.Sqe
/-!
# C15 — Block-index filtering never changes results

Vocabulary.  `Expr` is the filter AST; `accepted e` (decidable) says `e` has no NOT and no empty AND/OR —
`parse_accepted` shows everything the parser returns satisfies it (and more: `shape`).  An assignment of
keys to the blocks of a segment is a list of `Item`s (block number, keys the index module emitted on it)
with pairwise different block numbers; `buildIndex items` is the key → bitmap map that
`Engine.EndOfStream` writes into the index file.  `holds ks e` is the plain boolean meaning of `e` on
the key set `ks`.  All statements are for every expression, every assignment, every block (no bound).

Where the hypotheses come from:
* `accepted e` — `sqe.Parse` is the only producer of filter expressions (`pipeline.BuildModuleExecutors`),
  and `parse_accepted` proves its results are accepted;
* `(items.map Item.block).Nodup` — `Engine.HandleFinal` is called once per final block number of the
  segment (one output of the index module per block);
* `it ∈ items` — the block is one the index module produced an output for (possibly with no key at all);
  `selected_subset` / `skip_without_output` / `skip_agree_all` cover the blocks it produced nothing for.
-/
namespace SV.C15
open SV.Sqe

/-! ## The core: the two evaluators agree -/

/-- **Evaluation on a block's keys is the boolean meaning of the filter** (`KeysApply`): it never
panics on an accepted expression and returns `holds`. -/
theorem keys_eval_spec (e : Expr) (ha : accepted e = true) (ks : List Key) :
    keysApply (some ks) e = .ok (holds ks e) :=
  keysApply_holds ks e ha

/-- **Evaluation over the pre-computed index is the boolean meaning, block by block**
(`RoaringBitmapsApply` on the index `EndOfStream` wrote): it never panics on an accepted expression and
a block of the assignment is selected exactly when the filter holds on that block's own keys. -/
theorem bitmap_eval_spec (e : Expr) (ha : accepted e = true) (items : List Item)
    (hnd : (items.map Item.block).Nodup) (it : Item) (hit : it ∈ items) :
    ∃ r, bitmapApply (buildIndex items) e = .ok r ∧ (it.block ∈ r ↔ holds it.keys e = true) :=
  bitmapApply_holds _ _ _ (linked_buildIndex items hnd it hit) e ha

/-- **`eval_agree` (the statement of C15)**: for every accepted filter expression and every assignment
of keys to the blocks of a segment, evaluating the filter against the pre-computed index selects
exactly the blocks on which evaluating it against that block's own keys is true. -/
theorem eval_agree (e : Expr) (ha : accepted e = true) (items : List Item)
    (hnd : (items.map Item.block).Nodup) (it : Item) (hit : it ∈ items) :
    ∃ r v, bitmapApply (buildIndex items) e = .ok r ∧ keysApply (some it.keys) e = .ok v ∧
      (it.block ∈ r ↔ v = true) := by
  obtain ⟨r, hr, hm⟩ := bitmap_eval_spec e ha items hnd it hit
  exact ⟨r, _, hr, keys_eval_spec e ha it.keys, hm⟩

/-- `eval_agree` with the assignment given as a function `keysAt` on the (duplicate-free) list of the
segment's blocks. -/
theorem eval_agree_fun (e : Expr) (ha : accepted e = true) (blocks : List Nat) (hnd : blocks.Nodup)
    (keysAt : Nat → List Key) (b : Nat) (hb : b ∈ blocks) :
    ∃ r v, bitmapApply (buildIndex (blocks.map fun b => ⟨b, keysAt b⟩)) e = .ok r ∧
      keysApply (some (keysAt b)) e = .ok v ∧ (b ∈ r ↔ v = true) := by
  have hnd' : ((blocks.map fun b => (⟨b, keysAt b⟩ : Item)).map Item.block).Nodup := by
    simpa [List.map_map, Function.comp_def] using hnd
  exact eval_agree e ha _ hnd' ⟨b, keysAt b⟩ (List.mem_map.2 ⟨b, hb, rfl⟩)

/-- **Nothing outside the assignment is ever selected**: a block the index module produced no output
for (or a block of another segment) is in no result bitmap — the filtered module is not run there. -/
theorem selected_subset (e : Expr) (ha : accepted e = true) (items : List Item) (r : Bitmap)
    (hr : bitmapApply (buildIndex items) e = .ok r) (b : Nat) (hb : b ∈ r) :
    ∃ it ∈ items, it.block = b := by
  apply Classical.byContradiction
  intro hne
  obtain ⟨r', hr', hn⟩ := bitmapApply_absent items b (fun it hit heq => hne ⟨it, hit, heq⟩) e ha
  cases hr.symm.trans hr'
  exact hn hb

/-- **NOT is rejected for a reason**: with a NOT the two evaluators disagree (the bitmaps of a segment
only know the blocks between the first and the last indexed key).  Witness: `-a` over a segment where
block 5 carries `a` and block 6 carries no key: the bitmap evaluation does not select 6, the key
evaluation accepts it. -/
theorem not_breaks_agreement :
    ∃ (e : Expr) (items : List Item) (it : Item) (r : Bitmap),
      (items.map Item.block).Nodup ∧ it ∈ items ∧
      bitmapApply (buildIndex items) e = .ok r ∧ keysApply (some it.keys) e = .ok true ∧
      it.block ∉ r :=
  ⟨.not (.key [97] []), [⟨5, [[97]]⟩, ⟨6, []⟩], ⟨6, []⟩, [], by decide +kernel, .tail _ (.head _), rfl, rfl,
    List.not_mem_nil⟩

/-! ## The parser -/

/-- **The parser only returns accepted expressions** (`parse_notfree` in DESIGN.md): a successful `Parse` yields an
expression without NOT in which every AND/OR has at least two children (`shape`), hence an accepted one.
Holds for every token stream and every value of `MaxRecursionDeepness`. -/
theorem parse_accepted (maxDepth : Nat) (toks : List Tok) (e : Expr)
    (h : parse maxDepth toks = .ok e) : shape e = true ∧ accepted e = true := by
  unfold parse at h
  have hg := ((parse_spec maxDepth (parseFuel toks)).1 0 ⟨toks, 0⟩).1
  split at h
  · next e0 _ he =>
    rw [he] at hg
    injection h with h
    subst h
    have := shape_optimize e0 hg.1
    exact ⟨this, shape_accepted _ this⟩
  · cases h
  · cases h

/-- the same from the input bytes (`sqe.Parse(ctx, input)`), through the model of the lexer -/
theorem parseBytes_accepted (maxDepth : Nat) (input : Bytes) (e : Expr)
    (h : parseBytes maxDepth input = .ok e) : accepted e = true :=
  (parse_accepted maxDepth (lex input) e h).2

/-- **The parser is total**: on every token stream the recursive descent terminates within the fuel
`parse` gives it (3·tokens + 2 calls deep), with an expression or an error — never the model's
out-of-fuel outcome.  The depth limit is one of the errors (`ErrKind.tooDeep`, the recovered panic). -/
theorem parse_total (maxDepth : Nat) (toks : List Tok) : parse maxDepth toks ≠ .fuel := by
  unfold parse
  have := ((parse_spec maxDepth (parseFuel toks)).1 0 ⟨toks, 0⟩).2 (Nat.le_refl _)
  split
  · nofun
  · nofun
  · next h => exact absurd h this

/-- **The depth limit only ever rejects**: raising `MaxRecursionDeepness` never changes the expression
(or the error) an input yields, it only turns the "expression is too long" error into a result.  So the
limit protects the stack without affecting the meaning of any accepted filter. -/
theorem depth_limit_only_rejects (maxDepth maxDepth' : Nat) (h : maxDepth ≤ maxDepth') (toks : List Tok) :
    (∃ e, parse maxDepth toks = .err e ∧ e.kind = .tooDeep) ∨
      parse maxDepth' toks = parse maxDepth toks := by
  unfold parse
  rcases (depth_mono maxDepth maxDepth' h (parseFuel toks)).1 0 ⟨toks, 0⟩ with hd | hd
  · split
    · next he => rw [he] at hd; exact hd.elim
    · next e he => rw [he] at hd; exact Or.inl ⟨e, rfl, hd⟩
    · next he => rw [he] at hd; exact hd.elim
  · rw [hd]; exact Or.inr rfl

/-- **The minus sign is rejected wherever an operand is expected**: `parseUnaryExpression` answers the
"NOT operator is not supported" error on `-`, whatever follows. -/
theorem unary_rejects_not (maxDepth fuel depth : Nat) (rest : List Tok) (look : Nat) :
    parseUnary maxDepth (fuel + 1) depth ⟨.notOp :: rest, look⟩ = .err ⟨[], .notUnsupported⟩ := rfl

/-- **The lexer loses nothing**: the texts of the tokens, concatenated, are the input — every byte of a
query ends up in exactly one token. -/
theorem lex_text (input : Bytes) : (lex input).flatMap Tok.text = input :=
  lexGo_text .none input

/-! ## The optimizer -/

/-- **The optimizer keeps expressions accepted.** -/
theorem optimize_accepted (e : Expr) (ha : accepted e = true) : accepted (optimize e) = true :=
  accepted_optimize e ha

/-- **The optimizer preserves the boolean meaning** (of every expression, NOT included). -/
theorem optimize_holds (e : Expr) (ks : List Key) : holds ks (optimize e) = holds ks e :=
  holds_optimize ks e

/-- **The optimizer preserves evaluation on a block's keys.** -/
theorem optimize_keys (e : Expr) (ha : accepted e = true) (ks : List Key) :
    keysApply (some ks) (optimize e) = keysApply (some ks) e := by
  rw [keysApply_holds ks e ha, keysApply_holds ks _ (accepted_optimize e ha), holds_optimize]

/-- **The optimizer preserves evaluation over bitmaps**, for every index whatsoever: both evaluations
succeed and select the same set of blocks. -/
theorem optimize_bitmap (e : Expr) (ha : accepted e = true) (idx : Index) :
    ∃ r r', bitmapApply idx (optimize e) = .ok r ∧ bitmapApply idx e = .ok r' ∧
      ∀ b, b ∈ r ↔ b ∈ r' := by
  obtain ⟨r, hr, m⟩ := bitmapApply_spec idx _ (accepted_optimize e ha)
  obtain ⟨r', hr', m'⟩ := bitmapApply_spec idx e ha
  refine ⟨r, r', hr, hr', fun b => ?_⟩
  rw [m _ b (linked_keysAt idx b), m' _ b (linked_keysAt idx b), holds_optimize]

/-! ## The skip decision: index present vs absent -/

/-- **`skip_agree`**: for the index that `EndOfStream` writes, the skip decision taken from the
pre-computed bitmap (an index file existed: `newBlockIndex e (some idx)`) equals the decision taken on
the fly from the block's own index-module output (no index file: `newBlockIndex e none`), on every block
the index module produced an output for; both are "skip iff the filter does not hold on the block's
keys".  Hence a filtered module runs on the same blocks whether the index file exists, is being built,
or is absent. -/
theorem skip_agree (e : Expr) (ha : accepted e = true) (items : List Item)
    (hnd : (items.map Item.block).Nodup) (it : Item) (hit : it ∈ items) :
    ∃ pre fly, newBlockIndex e (some (buildIndex items)) = .ok pre ∧ newBlockIndex e none = .ok fly ∧
      skipFromIndex (some pre) it.block (some it.keys) = .ok (!holds it.keys e) ∧
      skipFromIndex (some fly) it.block (some it.keys) = .ok (!holds it.keys e) := by
  obtain ⟨r, hr, hm⟩ := bitmap_eval_spec e ha items hnd it hit
  refine ⟨_, ⟨e, none⟩, newBlockIndex_some hr, rfl, skipFromIndex_precomputed hm _, ?_⟩
  show (keysApply (some it.keys) e >>= fun r => Except.ok (!r)) = _
  rw [keysApply_holds _ e ha]; rfl

/-- **Blocks without an index-module output** (all the index module's inputs were skipped there): the
filtered module is skipped both ways — with the index file present (the block is in no bitmap) and
without it (`ErrNotFound` from the buffer means "no key": the model mirrors `skipFromIndex` after commit
55c28f5e, "a filtered module is skipped, not crashed, on a block where its index module has no output"). -/
theorem skip_without_output (e : Expr) (ha : accepted e = true) (items : List Item) (b : Nat)
    (hb : ∀ it ∈ items, it.block ≠ b) :
    ∃ pre fly, newBlockIndex e (some (buildIndex items)) = .ok pre ∧ newBlockIndex e none = .ok fly ∧
      (∀ out, skipFromIndex (some pre) b out = .ok true) ∧
      skipFromIndex (some fly) b none = .ok true := by
  obtain ⟨r, hr, hn⟩ := bitmapApply_absent items b hb e ha
  refine ⟨_, ⟨e, none⟩, newBlockIndex_some hr, rfl, fun out => ?_, rfl⟩
  rw [skipFromIndex_bitmap, Bool.eq_false_iff.2 (mt List.contains_iff_mem.1 hn)]
  rfl

/-- **`skip_agree_all` — the skip decision does not depend on the index file, on any block**: for every
accepted filter, every assignment (one index-module output per block number) and **every** block `b` —
whether the index module produced an output on it or not — the decision from the pre-computed bitmap of
the index `EndOfStream` writes (index file present) equals the decision taken on the fly from what the
block's buffer holds (index file absent, or being built by this very run: the writer only collects the
outputs, decisions are on the fly).  Both are: skip iff the block has no index output or the filter
does not hold on its keys.  No panic either way. -/
theorem skip_agree_all (e : Expr) (ha : accepted e = true) (items : List Item)
    (hnd : (items.map Item.block).Nodup) (b : Nat) :
    ∃ pre fly, newBlockIndex e (some (buildIndex items)) = .ok pre ∧ newBlockIndex e none = .ok fly ∧
      skipFromIndex (some pre) b (outputOf items b) = skipFromIndex (some fly) b (outputOf items b) ∧
      skipFromIndex (some fly) b (outputOf items b) =
        .ok (match outputOf items b with
             | none => true
             | some ks => !holds ks e) := by
  cases hf : items.find? (fun it => it.block == b) with
  | none =>
    have ho : outputOf items b = none := by rw [outputOf, hf]; rfl
    obtain ⟨pre, fly, h1, h2, h3, h4⟩ := skip_without_output e ha items b fun it hit heq =>
      absurd (beq_iff_eq.2 heq) (List.find?_eq_none.1 hf it hit)
    rw [ho]
    exact ⟨pre, fly, h1, h2, (h3 none).trans h4.symm, h4⟩
  | some it =>
    have ho : outputOf items b = some it.keys := by rw [outputOf, hf]; rfl
    obtain ⟨pre, fly, h1, h2, h3, h4⟩ := skip_agree e ha items hnd it (List.mem_of_find?_eq_some hf)
    have hblk := List.find?_some hf
    rw [ho, ← beq_iff_eq.1 hblk]
    exact ⟨pre, fly, h1, h2, h3.trans h4.symm, h4⟩

/-- **Skipping a whole segment is sound** (`ExcludesAllBlocks`, tier 2): when the pre-computed bitmap
is empty, the filter holds on no block of the assignment. -/
theorem excludes_all_sound (e : Expr) (ha : accepted e = true) (items : List Item)
    (hnd : (items.map Item.block).Nodup) (pre : BlockIndex)
    (hp : newBlockIndex e (some (buildIndex items)) = .ok pre)
    (hx : excludesAllBlocks (some pre) = true) (it : Item) (hit : it ∈ items) :
    holds it.keys e = false := by
  obtain ⟨r, hr, hm⟩ := bitmap_eval_spec e ha items hnd it hit
  rw [newBlockIndex_some hr] at hp
  injection hp with hp
  subst hp
  have : r = [] := List.isEmpty_iff.1 hx
  subst this
  exact Bool.eq_false_iff.2 fun hh => absurd (hm.2 hh) List.not_mem_nil

/-- No filter (`index == nil`): never skipped. -/
theorem no_filter_never_skips (b : Nat) (out : Option (List Key)) :
    skipFromIndex none b out = .ok false := rfl

/-! ## Non-vacuity: concrete instances -/

/-- `a b || "c d"` lexes and parses to `Or[And[a,b], "c d"]`, which is accepted.  `2501` is Go's
`sqe.MaxRecursionDeepness`. -/
example : parseBytes 2501 [97, 32, 98, 32, 124, 124, 32, 34, 99, 32, 100, 34] =
    .ok (.or [.and [.key [97] [], .key [98] []], .key [99, 32, 100] [34]]) := by rfl

example : accepted (.or [.and [.key [97] [], .key [98] []], .key [99, 32, 100] [34]]) = true := by rfl

/-- nested ORs are flattened by the optimizer -/
example : parseBytes 2501 [97, 32, 124, 124, 32, 98, 32, 124, 124, 32, 99] =
    .ok (.or [.key [97] [], .key [98] [], .key [99] []]) := by rfl

/-- `a -b` is rejected (NOT), `a )` is rejected, depth limit 1 rejects any parenthesis -/
example : parseBytes 2501 [97, 32, 45, 98] = .err ⟨[.implicitAnd], .notUnsupported⟩ := by rfl
example : parseBytes 2501 [97, 32, 41] = .err ⟨[], .unexpectedRParen⟩ := by rfl
example : parseBytes 1 [40, 97, 41] = .err ⟨[], .tooDeep⟩ := by rfl

/-- a three-block segment: `a && (b || c)` selects blocks 10 and 12 through the index, and these are
the blocks whose own keys satisfy it (hypotheses of `eval_agree` met by a non-trivial instance) -/
example :
    let e : Expr := .and [.key [97] [], .paren (.or [.key [98] [], .key [99] []])]
    let items : List Item := [⟨10, [[97], [98]]⟩, ⟨11, [[97]]⟩, ⟨12, [[99], [97]]⟩, ⟨13, []⟩]
    accepted e = true ∧ (items.map Item.block).Nodup ∧
    bitmapApply (buildIndex items) e = .ok [10, 12] ∧
    items.map (fun it => keysApply (some it.keys) e) = [.ok true, .ok false, .ok true, .ok false] := by
  refine ⟨rfl, by decide, rfl, rfl⟩

end SV.C15
