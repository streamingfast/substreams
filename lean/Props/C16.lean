import Lemmas.Retry
import Generated.ConstsC16
/-!
# C16 — Worker failures never corrupt the stream or truncate it silently

What is proved here is the LOGIC of the property: the retry state machine of `RemoteWorker.Work`
(with `derr.RetryContext` / go-retry inlined), the classification of an attempt by `RemoteWorker.work`,
the two error tables (`tier2.toGRPCError`, `tier1.toConnectError`) and their composition, and an
abstract statement about the files a retried job leaves.  The generic theorems hold for every value of
the constants; the `…_extracted` theorems instantiate them at `SV.C16.Gen.*`, which
`harness/cmd/extract_c16` reads out of the current source on every run (so a changed constant or table
entry changes the statement that is checked).

Runtime behaviour that is NOT proved (named in checks/C16.json): the gRPC transport keeps status codes
and delivers `io.EOF` only when the server handler returned `nil`; back-off durations; goroutines.
The "same outputs as a fault-free run" half of the property is attached to the system harness
(C01/C07); `faults_do_not_change_files` below is its abstract core with explicit hypotheses.

All quantifiers are unbounded: every list of attempts, every counter value, every error.
-/
namespace SV.C16
open SV.Retry

/-! ## The retry loop (generic in `maxRetries = M`, `maxExecutionTimeouts = T`) -/

/-- **Transient faults are absorbed.**  Any sequence of clean faults (retryable error, context alive)
that fits the budgets — at most `M` of them, fewer than `T` counted as execution time-outs — followed by
an attempt that ends without error makes `Work` report success, and uses exactly `#faults + 1` attempts;
what the environment would have done afterwards is irrelevant. -/
theorem transient_recovers (M T : Nat) (faults : List OStep) (final : OStep) (rest : List OStep) (m : Bool)
    (hf : ∀ s ∈ faults, s.CleanFault) (hM : faults.length ≤ M) (hT : timeoutsOf faults < T)
    (hok : final.out = .ok m) (hctx : final.ctxAfter = none) :
    loop M T 0 0 0 (faults ++ final :: rest) = ⟨.succeeded m, faults.length + 1⟩ := by
  rw [loop_skip_faults0 M T faults _ hf hM hT]
  simp [loop, hok, hctx]

/-- **A non-retryable outcome is final.**  After clean faults within the budgets, an
attempt whose outcome is not retryable (success, `InvalidArgument`, `Failed` message, factory error,
context error) decides the job: the result is the one the attempt alone would give — it does not depend
on the faults before it nor on anything after it — and it is attempt number `#faults + 1` (no retry). -/
theorem fatal_not_retried (M T : Nat) (faults : List OStep) (final : OStep) (rest : List OStep)
    (hf : ∀ s ∈ faults, s.CleanFault) (hM : faults.length ≤ M) (hT : timeoutsOf faults < T)
    (hfin : ∀ e, final.out ≠ .retryable e) :
    loop M T 0 0 0 (faults ++ final :: rest)
      = ⟨(loop M T 0 0 0 [final]).result, faults.length + 1⟩ := by
  rw [loop_skip_faults0 M T faults _ hf hM hT]
  rw [loop_terminal M T _ _ _ final rest hfin]

/-- **Bounded.**  `Work` never makes more than `M + 1` attempts (the first one plus `M` retries), nor
more attempts than the environment was asked for. -/
theorem retry_bounded (M T : Nat) (steps : List OStep) :
    (loop M T 0 0 0 steps).attempts ≤ M + 1 ∧ (loop M T 0 0 0 steps).attempts ≤ steps.length := by
  have := loop_attempts_le M T steps 0 0 0
  omega

/-- **No silent truncation (loop level).**  Success is reported only if some attempt ended without error
while the context was alive; it is the last attempt made and every attempt before it was a clean fault. -/
theorem success_only_if_completed (M T : Nat) (steps : List OStep) (m : Bool) (a : Nat)
    (h : loop M T 0 0 0 steps = ⟨.succeeded m, a⟩) :
    ∃ pre s post, steps = pre ++ s :: post ∧ (∀ x ∈ pre, x.CleanFault) ∧
      s.out = .ok m ∧ s.ctxAfter = none ∧ a = pre.length + 1 := by
  obtain ⟨pre, s, post, h1, h2, h3, h4, h5⟩ := loop_succeeded_inv M T steps 0 0 0 m (congrArg Run.result h)
  have ha : (loop M T 0 0 0 steps).attempts = a := congrArg Run.attempts h
  exact ⟨pre, s, post, h1, h2, h3, h4, by omega⟩

/-- A run in which every attempt ends with a retryable error never ends in success, however long. -/
theorem only_faults_never_succeed (M T : Nat) (steps : List OStep)
    (hall : ∀ s ∈ steps, ∃ e, s.out = .retryable e) (m : Bool) :
    (loop M T 0 0 0 steps).result ≠ .succeeded m := by
  intro hres
  obtain ⟨pre, s, post, he, _, hok, _, _⟩ := loop_succeeded_inv M T steps 0 0 0 m hres
  obtain ⟨e, hs⟩ := hall s (by rw [he]; simp)
  rw [hok] at hs; cases hs

/-- **Exhaustion ends in an error.**  `M` clean faults followed by one more retryable error (time-out
budget not reached): the job fails with that last error after exactly `M + 1` attempts. -/
theorem exhaustion_is_error (M T : Nat) (pre : List OStep) (x : OStep) (post : List OStep) (e : RpcErr)
    (hpre : ∀ s ∈ pre, s.CleanFault) (hlen : pre.length = M) (hx : x.out = .retryable e)
    (hT : timeoutsOf (pre ++ [x]) < T) :
    loop M T 0 0 0 (pre ++ x :: post) = ⟨.failedExhausted e, M + 1⟩ := by
  rw [timeoutsOf_append] at hT
  rw [loop_skip_faults0 M T pre _ hpre (Nat.le_of_eq hlen) (by omega)]
  simp only [loop, hx, bumpTimeouts_of_out _ hx, Nat.not_le.2 hT, hlen, Nat.le_refl, if_true, if_false]

/-- **The execution time-out budget ends in an error.**  When the `T`-th error counted as an execution
time-out arrives (the text mentions `DeadlineExceeded` and does not say "overloaded"), the job fails at
once, whatever retries are left. -/
theorem timeouts_is_error (M T : Nat) (pre : List OStep) (x : OStep) (post : List OStep) (e : RpcErr)
    (hpre : ∀ s ∈ pre, s.CleanFault) (hlen : pre.length ≤ M) (hx : x.out = .retryable e)
    (hcount : e.counted = true) (hT : timeoutsOf pre + 1 = T) :
    loop M T 0 0 0 (pre ++ x :: post) = ⟨.failedTimeouts e, pre.length + 1⟩ := by
  have h1 : T ≤ bumpTimeouts (timeoutsOf pre) e := by
    rw [bumpTimeouts_eq, hcount, if_pos rfl]; exact Nat.le_of_eq hT.symm
  rw [loop_skip_faults0 M T pre _ hpre hlen (by omega)]
  simp only [loop, hx, h1, if_true]

/-- **Cancellation stops the job (1).**  With a context that is already dead `Work` makes no attempt. -/
theorem cancel_stops_before (cfg : Cfg) (c : CtxErr) (steps : List Step) :
    workLoop cfg (some c) steps = ⟨.failedCtx c, 0⟩ := rfl

/-- **Cancellation stops the job (2).**  If the context dies during an attempt (whatever the attempt
returns), that attempt is the last one: nothing of the rest of the script is executed and the job is not
reported as succeeded. -/
theorem cancel_stops_during (M T : Nat) (faults : List OStep) (s : OStep) (rest rest' : List OStep) (c : CtxErr)
    (hf : ∀ x ∈ faults, x.CleanFault) (hM : faults.length ≤ M) (hT : timeoutsOf faults < T)
    (hc : s.ctxAfter = some c) :
    loop M T 0 0 0 (faults ++ s :: rest) = loop M T 0 0 0 (faults ++ s :: rest') ∧
    (loop M T 0 0 0 (faults ++ s :: rest)).attempts = faults.length + 1 ∧
    ∀ m, (loop M T 0 0 0 (faults ++ s :: rest)).result ≠ .succeeded m := by
  have hs : ¬ s.CleanFault := fun h => by rw [h.2.1] at hc; cases hc
  rw [loop_faults_then_stop M T faults rest hf hM hT hs, loop_faults_then_stop M T faults rest' hf hM hT hs]
  exact ⟨rfl, rfl, fun m hm => by rw [(loop_one_succeeded hm).2] at hc; cases hc⟩

/-- **Cancellation stops the job (3).**  If the context dies during the back-off sleep after a retryable
error, no further attempt is made and the job fails (with the context's error unless a budget was
exhausted by that very attempt). -/
theorem cancel_stops_in_backoff (M T : Nat) (faults : List OStep) (s : OStep) (rest rest' : List OStep)
    (c : CtxErr) (e : RpcErr)
    (hf : ∀ x ∈ faults, x.CleanFault) (hM : faults.length ≤ M) (hT : timeoutsOf faults < T)
    (hs : s.out = .retryable e) (hc : s.sleepCancel = some c) :
    loop M T 0 0 0 (faults ++ s :: rest) = loop M T 0 0 0 (faults ++ s :: rest') ∧
    (loop M T 0 0 0 (faults ++ s :: rest)).attempts = faults.length + 1 ∧
    ∀ m, (loop M T 0 0 0 (faults ++ s :: rest)).result ≠ .succeeded m := by
  have hs' : ¬ s.CleanFault := fun h => by rw [h.2.2] at hc; cases hc
  rw [loop_faults_then_stop M T faults rest hf hM hT hs', loop_faults_then_stop M T faults rest' hf hM hT hs']
  exact ⟨rfl, rfl, fun m hm => by rw [(loop_one_succeeded hm).1] at hs; cases hs⟩

/-! ## One attempt: how `work()` classifies what the stream did -/

/-- A stream error after progress messages is passed through unchanged (non-retryable) exactly when its
status code is in the configured set, and is wrapped as retryable otherwise — for every code, including
errors that carry no gRPC status. -/
theorem stream_error_classification (cfg : Cfg) (h : Bool) (ups post : List RecvEv) (e : RpcErr)
    (hups : ∀ ev ∈ ups, ev.Progress) :
    observe cfg ⟨.stream h (ups ++ .err e :: post), none⟩
      = ⟨if e.codeOrOk ∈ cfg.fatalCodes then .fatalStatus e else .retryable e, none, none⟩ := by
  simp [observe, work_stream_error cfg h ups e post hups]

/-- An error of the `ProcessRange` call itself is always retryable. -/
theorem call_error_classification (cfg : Cfg) (e : RpcErr) :
    observe cfg ⟨.callErr e, none⟩ = ⟨.retryable e, none, none⟩ := by
  simp [observe, work_call_error]

/-- **No silent truncation (attempt level).**  An attempt is reported as "no error, context alive" only
if the stream opened and delivered progress messages followed by a `Completed` message, or progress
messages followed by the clean end of the stream (the server handler returned `nil`).  A stream that
breaks — any error, a `Failed` message, a cancellation — is never taken for a completed job. -/
theorem attempt_ok_only_if_stream_ended_cleanly (cfg : Cfg) (s : Step) (m : Bool)
    (h : work cfg s = (.ok m, none)) :
    ∃ hdr evs, s.att = .stream hdr evs ∧
      ((m = false ∧ ∀ ev ∈ evs, ev.Progress) ∨
       (m = true ∧ ∃ ups post, evs = ups ++ .msg .completed :: post ∧ ∀ ev ∈ ups, ev.Progress)) := by
  obtain ⟨att, cancel⟩ := s
  cases att with
  | factoryErr => simp [work] at h
  | callErr e => simp only [work] at h; split at h <;> simp at h
  | stream hdr evs =>
    refine ⟨hdr, evs, rfl, ?_⟩
    simp only [work] at h
    have h2 := congrArg Prod.snd h
    have h1 := congrArg Prod.fst h
    simp only at h1 h2
    -- the deferred close cannot revive a context: it was alive when the `Recv` loop returned
    have hctx := fire_eq_none h2
    split at h1
    · simp at h1              -- `Header()` failed with a dead context: the result is a context error
    · split at hctx
      · simp at hctx
      · exact recvLoop_ok_inv cfg cancel evs 0 _ m (Prod.ext h1 hctx)

/-! ## The theorems at the constants and tables of the current source -/

open SV.C16.Gen

/-- a module failure as `BaseExecutor.wasmCall` reports it while its context is alive, possibly wrapped
further (any `storeMax` / `invalidArg` feature), not carrying a status / connect error / context error -/
def IsModuleFailure (f : ErrFeat) : Prop :=
  f.grpc = none ∧ f.connect = none ∧ f.canceled = false ∧ f.deadline = false ∧ f.wasmDet = true

/-- **`transient_recovers` at the extracted constants**: up to `maxRetries` transient faults, fewer
than `maxExecutionTimeouts` of them execution time-outs, then a complete attempt ⇒
`MsgJobSucceeded` after `#faults + 1` attempts. -/
theorem transient_recovers_extracted (faults : List Step) (final : Step) (rest : List Step) (m : Bool)
    (hf : ∀ s ∈ faults, (observe cfg s).CleanFault)
    (hM : faults.length ≤ maxRetries) (hT : timeoutsOf (faults.map (observe cfg)) < maxExecutionTimeouts)
    (hfin : work cfg final = (.ok m, none)) :
    workLoop cfg none (faults ++ final :: rest) = ⟨.succeeded m, faults.length + 1⟩ := by
  have := transient_recovers cfg.maxRetries cfg.maxTimeouts (faults.map (observe cfg)) (observe cfg final)
    (rest.map (observe cfg)) m (List.forall_mem_map.2 hf) (by rw [List.length_map]; exact hM) hT
    (congrArg Prod.fst hfin) (congrArg Prod.snd hfin)
  rw [List.length_map, ← List.map_cons, ← List.map_append] at this
  exact this

/-- **`retry_bounded` at the extracted constants**: never more than `maxRetries + 1` attempts, and success only after
an attempt whose stream ended cleanly (`Completed` message or status OK). -/
theorem retry_bounded_extracted (ctx0 : Option CtxErr) (steps : List Step) :
    (workLoop cfg ctx0 steps).attempts ≤ maxRetries + 1 ∧
    (∀ m, (workLoop cfg ctx0 steps).result = .succeeded m →
      ∃ s ∈ steps, work cfg s = (.ok m, none)) := by
  cases ctx0 with
  | some c => simp [workLoop]
  | none =>
    refine ⟨(retry_bounded cfg.maxRetries cfg.maxTimeouts _).1, ?_⟩
    intro m hres
    obtain ⟨pre, s, post, he, _, hok, hctx, _⟩ := loop_succeeded_inv _ _ (steps.map (observe cfg)) 0 0 0 m hres
    have hmem : s ∈ steps.map (observe cfg) := by rw [he]; simp
    obtain ⟨st, hst, rfl⟩ := List.mem_map.1 hmem
    refine ⟨st, hst, ?_⟩
    simp only [observe] at hok hctx
    exact Prod.ext hok hctx

/-- The only status code that `work()` does not retry is `InvalidArgument`: every other code — among them
`Unavailable`, `ResourceExhausted`, `DeadlineExceeded`, `Canceled`, `Internal`, `Unknown` — and every
error without a status is retryable. -/
theorem only_invalid_argument_is_fatal (e : RpcErr) :
    e.codeOrOk ∈ fatalCodes ↔ e.code = some .invalidArgument := by
  obtain ⟨code, o, d⟩ := e
  cases code <;> simp [RpcErr.codeOrOk, fatalCodes]

/-- **Deterministic failure ⇒ invalid argument, end to end, no retry** (composition of the two tables and
the set of fatal codes).
(1) tier 2 maps a module failure to `InvalidArgument`, whatever the cancellation cause;
(2) the worker, receiving that status on the stream after any progress and after any admissible number
    of transient faults, fails the job at once with that very error — `#faults + 1` attempts, the rest
    of the script untouched;
(3) tier 1 maps the job's error to the connect code `invalid_argument`, which is what the client sees. -/
theorem deterministic_is_invalid_arg (f : ErrFeat) (hf : IsModuleFailure f) (cause1 cause2 : Cause)
    (faults : List Step) (hdr : Bool) (ups post : List RecvEv) (rest : List Step)
    (hfaults : ∀ s ∈ faults, (observe cfg s).CleanFault)
    (hM : faults.length ≤ maxRetries) (hT : timeoutsOf (faults.map (observe cfg)) < maxExecutionTimeouts)
    (hups : ∀ ev ∈ ups, ev.Progress) :
    let c2 := (mapErr tier2Table cause2 f).code
    let run := workLoop cfg none (faults ++ ⟨.stream hdr (ups ++ .err (statusErr c2) :: post), none⟩ :: rest)
    c2 = .invalidArgument ∧
    run = ⟨.failedStatus (statusErr .invalidArgument), faults.length + 1⟩ ∧
    mapErr tier1Table cause1 run.result.feat = ⟨.invalidArgument, true⟩ ∧
    (mapErr tier1Table cause1 run.result.feat).clientCode = .invalidArgument := by
  obtain ⟨h1, h2, h3, h4, h5⟩ := hf
  have hc2 : (mapErr tier2Table cause2 f).code = .invalidArgument := by
    cases hs : f.storeMax <;>
      simp [mapErr, tier2Table, applyRules, ErrFeat.has, h1, h2, h3, h4, h5, hs]
  simp only [hc2]
  have hobs := stream_error_classification cfg hdr ups post (statusErr .invalidArgument) hups
  have hfat : (statusErr .invalidArgument).codeOrOk ∈ cfg.fatalCodes := by decide
  rw [if_pos hfat] at hobs
  have hrun : workLoop cfg none
      (faults ++ ⟨.stream hdr (ups ++ .err (statusErr .invalidArgument) :: post), none⟩ :: rest)
      = ⟨.failedStatus (statusErr .invalidArgument), faults.length + 1⟩ := by
    have := fatal_not_retried cfg.maxRetries cfg.maxTimeouts (faults.map (observe cfg))
      ⟨.fatalStatus (statusErr .invalidArgument), none, none⟩ (rest.map (observe cfg))
      (List.forall_mem_map.2 hfaults) (by rw [List.length_map]; exact hM) hT (fun _ h => nomatch h)
    show loop _ _ 0 0 0 (List.map (observe cfg) _) = _
    rw [List.map_append, List.map_cons, hobs, this, List.length_map]
    rfl
  refine ⟨trivial, hrun, ?_, ?_⟩ <;> (rw [hrun]; rfl)


/-- **An interrupted execution is not a deterministic failure.**  When a wasm call returns a runtime error
while the executor's context is dead (per-block execution time-out, cancellation), `wasmCall`'s error does
not carry the deterministic marker, tier 2 answers `Canceled` / `DeadlineExceeded` / `Unavailable` — never
`InvalidArgument` — and the worker classifies that answer as retryable, after any progress. -/
theorem interrupted_execution_is_retried (c : CtxErr) (cause : Cause) (hdr : Bool) (ups post : List RecvEv)
    (hups : ∀ ev ∈ ups, ev.Progress) :
    let f := moduleFailureP false (some c)
    let c2 := (mapErr tier2Table cause f).code
    f.wasmDet = false ∧ c2 ≠ .invalidArgument ∧
    observe cfg ⟨.stream hdr (ups ++ .err (statusErr c2) :: post), none⟩
      = ⟨.retryable (statusErr c2), none, none⟩ := by
  have hobs := fun c2 => stream_error_classification cfg hdr ups post (statusErr c2) hups
  cases c <;> cases cause <;>
    (refine ⟨rfl, by decide, ?_⟩; rw [hobs]; rfl)

/-- A module that panicked failed deterministically whatever the state of the context (the panic is looked
at before the context). -/
theorem panic_is_module_failure (ctx : Option CtxErr) : IsModuleFailure (moduleFailureP true ctx) := by
  simp [IsModuleFailure, moduleFailureP]

/-- Tier 1 on its own also maps a module failure (in development mode the module runs on tier 1) to
`invalid_argument`. -/
theorem tier1_module_failure_is_invalid_arg (f : ErrFeat) (hf : IsModuleFailure f) (cause : Cause) :
    mapErr tier1Table cause f = ⟨.invalidArgument, true⟩ := by
  obtain ⟨h1, h2, h3, h4, h5⟩ := hf
  cases hs : f.storeMax <;>
    simp [mapErr, tier1Table, applyRules, ErrFeat.has, h1, h3, h4, h5, hs]

/-- The message of tier 2's "overloaded" rejection contains the substring by which `Work` recognises an
overloaded worker; an error recognised that way is never counted as an execution time-out (even when
it also mentions `DeadlineExceeded`), so overload alone can never use up the time-out budget. -/
theorem overload_recognised_and_not_a_timeout :
    hasInfix overloadNeedle overloadMessage = true ∧
    ∀ (t : Nat) (e : RpcErr), e.textOverloaded = true → bumpTimeouts t e = t := by
  refine ⟨by decide, ?_⟩
  intro t e h; simp [bumpTimeouts, h]

/-- **Overload is a transient fault.**  Tier 2's "overloaded" rejection — a connect error returned
directly by `ProcessRange`, which the transport delivers as `Unknown` with the text kept (assumption
`transport`) — is retryable, is recognised as overload and never counts as an execution time-out. -/
theorem overloaded_rejection_is_retried (hdr : Bool) (t : Nat) :
    let e := transport tier2Table (.direct overloadCode (hasInfix overloadNeedle overloadMessage))
    observe cfg ⟨.stream hdr [.err e], none⟩ = ⟨.retryable e, none, none⟩ ∧
    e.textOverloaded = true ∧ bumpTimeouts t e = t := by
  have h : (transport tier2Table (.direct overloadCode
      (hasInfix overloadNeedle overloadMessage))).textOverloaded = true := by decide
  exact ⟨observe_direct cfg tier2Table hdr _ _ (by decide), h,
    overload_recognised_and_not_a_timeout.2 t _ h⟩

/-- **Quirk of the current code (reported, see checks/C16.json).**  The request-validation rejections of
`ProcessRange` ("missing modules in request", "validate request: …") are `connect` errors returned
directly; behind a gRPC server they arrive as `Unknown`, so the worker RETRIES them (up to `maxRetries`
times) although tier 2 meant `InvalidArgument`.  Only errors that went through `toGRPCError` keep their
code.  (Module failures do go through `toGRPCError`: `deterministic_is_invalid_arg`.) -/
theorem quirk_direct_invalid_argument_is_retried (hdr : Bool) :
    let e := transport tier2Table (.direct .invalidArgument false)
    observe cfg ⟨.stream hdr [.err e], none⟩ = ⟨.retryable e, none, none⟩ := by
  exact observe_direct cfg tier2Table hdr _ _ (by decide)

/-- What the client of tier 1 sees when a job fails for a reason other than a deterministic module
failure: exhaustion and repeated time-outs surface as `internal`, cancellation as `canceled`, an expired
context as `deadline_exceeded` — never as success and never as `invalid_argument`. -/
theorem job_failure_codes (e : RpcErr) :
    (mapErr tier1Table .none (Result.failedExhausted e).feat).clientCode = .internal ∧
    (mapErr tier1Table .none (Result.failedTimeouts e).feat).clientCode = .internal ∧
    (mapErr tier1Table .none (Result.failedCtx .canceled).feat).clientCode = .canceled ∧
    (mapErr tier1Table .none (Result.failedCtx .deadline).feat).clientCode = .deadlineExceeded := by
  exact ⟨rfl, rfl, rfl, rfl⟩

/-! ## System level: what a retried job leaves in the cache -/

/-- **Faults do not change the files.**  Hypotheses, all explicit:
* `hfun`  — the fault-free job writes each file name once (one value per name);
* `hdet`  — the job is a deterministic function of the cache it starts from, and a cache that already
            holds some of the job's own files (each whole) yields the same files (C07: any subset of
            valid files is a valid cache);
* `hsub`  — every attempt, complete or not, writes only whole files of the job it runs (atomic writes:
            a file is written completely or not at all);
* `hall`  — an attempt that ends without error has written all of them (tier 2 reports completion only
            after flushing: `Pipeline.OnStreamTerminated`).
Then, whatever the attempts do: (a) the cache afterwards holds, name by name, either what it held before
or the fault-free job's file — never anything else; and (b) if `Work` reports success, the cache is
exactly the fault-free result `writeAll c0 (job c0)`. -/
theorem faults_do_not_change_files {N V : Type} [DecidableEq N] (M T : Nat)
    (job : Cache N V → Files N V) (c0 : Cache N V)
    (hfun : Functional (job c0))
    (hdet : ∀ c, Between c0 (job c0) c → job c = job c0)
    (steps : List (SysStep N V))
    (hsub : ∀ s ∈ steps, ∀ c, ∀ x ∈ s.wrote c, x ∈ job c)
    (hall : ∀ s ∈ steps, ∀ c m, s.o.out = .ok m → ∀ x ∈ job c, x ∈ s.wrote c) :
    Between c0 (job c0) (sysLoop M T 0 0 0 c0 steps).2 ∧
    (∀ m, (sysLoop M T 0 0 0 c0 steps).1.result = .succeeded m →
      ∀ n, (sysLoop M T 0 0 0 c0 steps).2 n = writeAll c0 (job c0) n) :=
  sysLoop_between M T job c0 hfun hdet steps 0 0 0 c0 hsub hall (fun _ => Or.inl rfl)

/-- `sysLoop` is the retry loop of the theorems above (same result, same number of attempts), with the
files as bookkeeping. -/
theorem sysLoop_is_loop {N V : Type} [DecidableEq N] (M T : Nat) (c0 : Cache N V) (steps : List (SysStep N V)) :
    (sysLoop M T 0 0 0 c0 steps).1 = loop M T 0 0 0 (steps.map (·.o)) :=
  sysLoop_run M T steps 0 0 0 c0

/-! ## Non-vacuity: concrete scripts meet the hypotheses -/

/-- `Unavailable` on the call, an overloaded rejection, a dropped stream after two updates, then a clean
end: success at the 4th attempt. -/
example : workLoop cfg none
    [⟨.callErr (statusErr .unavailable), none⟩,
     ⟨.stream false [.err ⟨some .unknown, true, false⟩], none⟩,
     ⟨.stream false [.msg .update, .msg .update, .err ⟨none, false, false⟩], none⟩,
     ⟨.stream false [.msg .update], none⟩,
     ⟨.factoryErr, none⟩] = ⟨.succeeded false, 4⟩ := by decide +kernel

/-- steps that meet the hypotheses of `transient_recovers_extracted` -/
example : (observe cfg ⟨.callErr (statusErr .unavailable), none⟩).CleanFault ∧
    (observe cfg ⟨.stream false [.msg .update, .err (statusErr .resourceExhausted)], none⟩).CleanFault ∧
    work cfg ⟨.stream false [.msg .update, .msg .completed], none⟩ = (.ok true, none) :=
  ⟨⟨⟨_, rfl⟩, rfl, rfl⟩, ⟨⟨_, rfl⟩, rfl, rfl⟩, rfl⟩

/-- three `DeadlineExceeded` stream errors: the job fails at the third attempt, the fourth is not made -/
example : workLoop cfg none
    [⟨.stream false [.err (statusErr .deadlineExceeded)], none⟩,
     ⟨.stream false [.err (statusErr .deadlineExceeded)], none⟩,
     ⟨.stream false [.err (statusErr .deadlineExceeded)], none⟩,
     ⟨.stream false [], none⟩] = ⟨.failedTimeouts (statusErr .deadlineExceeded), 3⟩ := by decide +kernel

/-- `InvalidArgument` after one transient fault: failed at attempt 2, invalid_argument for the client -/
example : workLoop cfg none
    [⟨.stream false [.err (statusErr .unavailable)], none⟩,
     ⟨.stream false [.msg .update, .err (statusErr .invalidArgument)], none⟩,
     ⟨.stream false [], none⟩] = ⟨.failedStatus (statusErr .invalidArgument), 2⟩ := by decide +kernel

example : IsModuleFailure (moduleFailure none) := by simp [IsModuleFailure, moduleFailure, moduleFailureP]

/-- cancellation inside the second `Recv`: `work` returns an empty result, `Work` reports the context error -/
example : workLoop cfg none [⟨.stream false [.msg .update, .msg .update], some (.recv 1, .canceled)⟩,
     ⟨.stream false [], none⟩] = ⟨.failedCtx .canceled, 1⟩ := by decide +kernel

/-- a job writing two files, interrupted twice (nothing written / one file written), then complete -/
example :
    let job : Cache Nat Nat → Files Nat Nat := fun _ => [(1, 10), (2, 20)]
    let fault : OStep := ⟨.retryable (statusErr .unavailable), none, none⟩
    let steps : List (SysStep Nat Nat) :=
      [⟨fault, fun _ => []⟩, ⟨fault, fun _ => [(2, 20)]⟩, ⟨⟨.ok false, none, none⟩, fun c => job c⟩]
    (sysLoop 720 3 0 0 0 (fun _ => none) steps).1 = ⟨.succeeded false, 3⟩ ∧
    (sysLoop 720 3 0 0 0 (fun _ => none) steps).2 2 = some 20 := by decide +kernel

end SV.C16
