import Lemmas.Validate
/-!
# C17 — Malformed requests are rejected with an error, never with a crash or a hang

Property theorems only.  The model (`Model/Validate.lean`) is the request path of tier1 as it is at
/repo HEAD: `Request.Validate → validateBinaryTypes → ValidateModules → validateModuleGraph →
NewOutputModuleGraph (graph, acyclicity, ancestor closure, initial blocks, staging, hashing) →
[first lines of blocks()] → BuildRequestDetails → [start/stop checks] → BuildTier1RequestPlan`,
over the **wire-level** request type: every oneof may be absent, every reference may dangle, names may
be duplicated or empty, numbers are arbitrary.  Every Go partial operation on that path is an
`Outcome.panic` branch of the model, the two constructs without a static bound (the `for i := 0; ; i++`
of `computeStages`, the recursion of `hashModule`) take fuel and return `Outcome.hang` when it runs out.

The pipeline theorems quantify over **every** request (no well-formedness hypothesis) and every server
configuration; their only hypothesis is `0 < cfg.segmentSize` (a server flag, not part of the request;
with segment size 0 the Go code divides by zero, see `segment_size_zero_panics`).  The per-stage
theorems assume only that the earlier stages returned ok.
-/
namespace SV.C17
open SV.Val

/-! ## Stage 1: ValidateTier1Request -/

/-- Stage 1 never panics or hangs, whatever the request: `ModuleKind()` is only reached behind the
`kind == nil` check, the block filter module is looked up among modules that all have a kind, edges
added to the graph are in range, ancestors are looked up at indexes in range. -/
theorem validate_total (r : Request) (blockType : Str) :
    validateTier1Request r blockType ≠ .panic ∧ validateTier1Request r blockType ≠ .hang :=
  (validateTier1Request_spec r blockType).ne_bad

/-- **The validated invariant.**  What an accepted request is known to satisfy — exactly the facts the
later stages need: module names pairwise distinct and non-empty, every module has a kind, every input
oneof is present, every map/store input and every block filter names an existing module, at most 100
modules with at most 30 inputs each. -/
theorem validated_invariant (r : Request) (blockType : Str) (ms : Modules)
    (h : validateTier1Request r blockType = .ok ms) :
    r.modules = some ms ∧
    (ms.modules.map (·.name)).Nodup ∧
    (∀ m ∈ ms.modules, m.name ≠ [] ∧ m.kind ≠ none ∧ m.inputs.length ≤ 30 ∧
      (∀ i ∈ m.inputs, i ≠ none) ∧
      (∀ nm ∈ depNames m, ∃ m' ∈ ms.modules, m'.name = nm)) ∧
    ms.modules.length ≤ 100 := by
  obtain ⟨h1, h2, _⟩ := (validateTier1Request_spec r blockType).of_ok h
  exact ⟨h1, h2.nodup,
    fun m hm => ⟨h2.nameNe m hm, h2.kinds m hm, h2.inputCount m hm, h2.present m hm, h2.refs m hm⟩, h2.count⟩

/-! ## Stage 2: NewOutputModuleGraph -/

/-- If validation returned ok, graph construction does not panic: `indexIndex[i]` is only read at
indexes in range, `computeStages` never meets an absent input oneof (its `panic(...)`), no layer is
empty (`l[0]`), the output module is among the used modules (`computeOutputModule`'s `panic(...)`). -/
theorem graph_no_panic (r : Request) (cfg : Cfg) (ms : Modules)
    (h : validateTier1Request r cfg.blockType = .ok ms) : stageGraph r ms cfg ≠ .panic :=
  (computeGraph_spec (modsOK_of_validated h) _ _ _).ne_bad.1

/-- **Termination of the two unbounded constructs.**  If validation returned ok, the fuel given to
`computeStages`' endless `for` (2·#used + 1 iterations) and to the recursion of `hashModule`
(depth #modules + 1) is never exhausted: every two iterations place at least one module (from an
unplaced module, following unplaced dependencies down the rank of the acyclic graph ends at one whose
dependencies are all placed), and the recursion descends along the rank. -/
theorem graph_no_hang (r : Request) (cfg : Cfg) (ms : Modules)
    (h : validateTier1Request r cfg.blockType = .ok ms) : stageGraph r ms cfg ≠ .hang :=
  (computeGraph_spec (modsOK_of_validated h) _ _ _).ne_bad.2

/-- The staging loop alone, for any set of modules with distinct names, present inputs, dependencies
inside the set and a rank decreasing along dependencies: within `2·n + 1` iterations it returns (an
error or layers), and the layers are non-empty sublists of the modules. -/
theorem stages_fuel_suffices (used : List Module) (rk : Str → Nat) (hU : UsedOK used rk)
    (tbl : List (Str × Nat)) :
    computeStages used tbl ≠ .hang ∧ computeStages used tbl ≠ .panic ∧
    ∀ ss, computeStages used tbl = .ok ss →
      (used ≠ [] → ss ≠ []) ∧ ∀ st ∈ ss, st ≠ [] ∧ ∀ l ∈ st, l ≠ [] ∧ l.Sublist used := by
  have hS := computeStages_spec hU tbl
  refine ⟨hS.ne_bad.2, hS.ne_bad.1, fun ss hss => ?_⟩
  have := hS.of_ok hss
  exact ⟨this.ne, fun st hst => ⟨this.stageNe st hst, fun l hl => ⟨this.layerNe st hst l hl, this.sub st hst l hl⟩⟩⟩

/-! ## Stages 3–5: BuildRequestDetails, the start/stop checks, BuildTier1RequestPlan -/

/-- Resolution of the start block and of the linear hand-off never panics (the only partial operation
is `% segmentSize`) nor hangs, for any request, validated or not. -/
theorem details_total (r : Request) (cfg : Cfg) (ms : Modules) (hseg : 0 < cfg.segmentSize) :
    stageDetails r ms cfg ≠ .panic ∧ stageDetails r ms cfg ≠ .hang :=
  (stageDetails_good r ms cfg hseg).ne_bad

theorem checks_total (r : Request) (eg : ExecGraph) (d : Details) :
    stageChecks r eg d ≠ .panic ∧ stageChecks r eg d ≠ .hang :=
  (stageChecks_good r eg d).ne_bad

/-- If the earlier stages returned ok, planning does not panic: `StagedUsedModules()[0]`,
`.LastLayer()`, `.IsStoreLayer()` find a stage, a layer, a module, and `*LowestStoresInitBlock()` is
only dereferenced when a used module is a store. -/
theorem plan_total (r : Request) (cfg : Cfg) (ms : Modules) (eg : ExecGraph) (d : Details)
    (hseg : 0 < cfg.segmentSize)
    (h : validateTier1Request r cfg.blockType = .ok ms) (hg : stageGraph r ms cfg = .ok eg) :
    stagePlan r eg d cfg ≠ .panic ∧ stagePlan r eg d cfg ≠ .hang :=
  (stagePlan_good r (execGraphOK_of_ok h hg) d cfg hseg).ne_bad

/-! ## The whole pipeline -/

/-- The five stage lemmas chained in the order of `Tier1Service.Blocks`: each stage is entered only
when the previous ones returned ok, with the validated invariant / the invariant of the execution graph
as hypothesis. -/
theorem pipeline_total (r : Request) (cfg : Cfg) (hseg : 0 < cfg.segmentSize) :
    Good (pipeline r cfg) := by
  rw [pipeline_eq_bind]
  refine (validateTier1Request_spec r cfg.blockType).bind fun ms ⟨_, hM, _⟩ => ?_
  refine (computeGraph_spec hM r.outputModule r.productionMode cfg.firstStreamable).bind fun eg hE => ?_
  exact (stageDetails_good r ms cfg hseg).bind fun d _ => (stageChecks_good r eg d).bind fun _ _ =>
    (stagePlan_good r hE d cfg hseg).bind fun _ _ => trivial

/-- **No crash.**  For every wire-level request — absent kinds, absent input oneofs, dangling
references, duplicate or empty names, out-of-range binary indexes, self references, cycles, arbitrary
numbers, any cursor — and every server configuration with a non-zero segment size, validation, graph
construction, hashing, staging, request resolution and planning end with `ok` or `error`, never with a
panic. -/
theorem no_panic (r : Request) (cfg : Cfg) (hseg : 0 < cfg.segmentSize) : pipeline r cfg ≠ .panic :=
  (pipeline_total r cfg hseg).ne_bad.1

/-- **No hang.**  Same quantification: neither the staging loop nor the hash recursion runs out of
fuel; every other loop of the model is structural recursion (Lean's termination check). -/
theorem no_hang (r : Request) (cfg : Cfg) (hseg : 0 < cfg.segmentSize) : pipeline r cfg ≠ .hang :=
  (pipeline_total r cfg hseg).ne_bad.2

/-- Every request is either accepted or rejected with an error. -/
theorem accepted_or_rejected (r : Request) (cfg : Cfg) (hseg : 0 < cfg.segmentSize) :
    (∃ s, pipeline r cfg = .ok s) ∨ pipeline r cfg = .error := by
  have h1 := no_panic r cfg hseg
  have h2 := no_hang r cfg hseg
  cases h : pipeline r cfg with
  | ok s => exact Or.inl ⟨s, rfl⟩
  | error => exact Or.inr rfl
  | panic => exact absurd h h1
  | hang => exact absurd h h2

/-! ## tier2: ValidateTier2Request and the first steps of processRange

`ProcessRangeRequest.Validate` does not check `stage` against the number of stages of the graph, and
`processRange` indexes the stages with it (`execGraph.UsedModulesUpToStage(int(request.Stage))`) right
after `NewOutputModuleGraph`.  The model mirrors `processRange` after commit 84ed6b1e, which checks the
stage first; before it a stage beyond the last one panicked with "index out of range" (class
`C17/panic/tier2-processRange/index-out-of-range` of this check). -/

/-- the stage check and the indexing that follows it: never a panic, whatever the stage number -/
theorem stage_check_guards_indexing (eg : ExecGraph) (stage : Nat) :
    ((checkStage eg stage).bind fun _ => usedModulesUpToStage eg stage) ≠ .panic ∧
    ((checkStage eg stage).bind fun _ => usedModulesUpToStage eg stage) ≠ .hang :=
  (checkStage_guards eg stage).ne_bad

/-- **tier2: no crash, no hang**, for every wire-level internal request, whatever its stage number. -/
theorem tier2_total (r : T2Request) : Good (pipelineTier2 r) := by
  rw [pipelineTier2_eq_bind]
  refine (validateTier2Request_spec r).bind fun ms hM => ?_
  exact (computeGraph_spec hM r.outputModule true r.firstStreamable).bind fun eg _ =>
    (checkStage_guards eg r.stage).bind fun _ _ => trivial

theorem tier2_no_panic (r : T2Request) : pipelineTier2 r ≠ .panic :=
  (tier2_total r).ne_bad.1

theorem tier2_no_hang (r : T2Request) : pipelineTier2 r ≠ .hang :=
  (tier2_total r).ne_bad.2

/-! ## Bounded allocation -/

theorem edgesOf_length_le (ms : List Module) (m : Module) : (edgesOf ms m).length ≤ m.inputs.length + 1 := by
  unfold edgesOf
  rw [List.length_append]
  have h1 := List.length_filterMap_le (inputEdge ms) m.inputs
  cases m.blockFilter with
  | none => simp only [List.length_nil]; omega
  | some bf =>
    simp only
    cases lookupIdx bf.module ms <;> simp <;> omega

/-- **Sizes of the intermediate structures** of an accepted request are bounded by small polynomials
in the two validated limits (100 modules, 30 inputs): the module graph has at most 100 vertices with
at most 31 out-edges each; at most 100 modules are used; there are at most 100 stages, every layer has
at most 100 modules; the staging loop is given 2·#used + 1 ≤ 201 iterations, and by `graph_no_hang`
the bound is not reached.  (The byte size of a hash pre-image
— it contains the module's binary — is C06's model; here the 300 MB limit on the sum of binaries
bounds it.) -/
theorem alloc_bounded (r : Request) (cfg : Cfg) (ms : Modules) (eg : ExecGraph)
    (h : validateTier1Request r cfg.blockType = .ok ms) (hg : stageGraph r ms cfg = .ok eg) :
    ms.modules.length ≤ 100 ∧
    (∀ m ∈ ms.modules, (edgesOf ms.modules m).length ≤ 31) ∧
    eg.used.length ≤ 100 ∧
    eg.stages.length ≤ 100 ∧
    (∀ st ∈ eg.stages, ∀ l ∈ st, l.length ≤ 100) ∧
    stagesFuel eg.used ≤ 201 ∧
    sumCode ms.binaries ≤ 300000000 := by
  obtain ⟨_, hM, hsum⟩ := (validateTier1Request_spec r cfg.blockType).of_ok h
  have hE := execGraphOK_of_ok h hg
  have hcount := hM.count
  have hused : eg.used.length ≤ 100 := Nat.le_trans hE.usedLen hcount
  refine ⟨hcount, ?_, hused, Nat.le_trans hE.stages.len hused, ?_, ?_, hsum⟩
  · intro m hm
    have := edgesOf_length_le ms.modules m
    have := hM.inputCount m hm
    omega
  · intro st hst l hl
    exact Nat.le_trans (hE.stages.sub st hst l hl).length_le hused
  · unfold stagesFuel; omega

/-! ## Non-vacuity: an accepted request, one request per rejection class, and the live panic / hang
branches of the model (all kernel-checked by evaluation) -/

section Examples

private def nT : Str := [84]
private def nA : Str := [97]
private def nS : Str := [115]
private def nC : Str := [99]

private def cfg0 : Cfg := ⟨nT, 0, 10, some 100, some 200, .noJunction⟩

/-- a: map(source T) ; s: store(map a) from block 3 ; c: map(store s get, map a) -/
private def mods0 : List Module :=
  [⟨nA, some .map, 0, [some (.source nT)], 0, none⟩,
   ⟨nS, some .store, 0, [some (.map nA)], 3, none⟩,
   ⟨nC, some .map, 0, [some (.store nS 1), some (.map nA)], 0, none⟩]

private def req0 (ms : List Module) : Request :=
  ⟨some ⟨ms, [⟨typeRustV1, 3⟩]⟩, nC, 5, 50, .none, true, []⟩

example : (pipelineStaged (req0 mods0) cfg0).1 = .done ∧ (pipeline (req0 mods0) cfg0).isOk = true := by decide +kernel

private def summaryIs (o : Outcome Summary) (stages : List (List (List Str))) (stores write : Option (Nat × Nat))
    (handoff : Nat) : Bool :=
  match o with
  | .ok s => s.graph.stages.map (·.map (·.map (·.name))) == stages && s.plan.buildStores == stores &&
      s.plan.writeExecOut == write && s.details.handoff == handoff
  | _ => false

/-- two stages `[[a],[s]]`, `[[c]]`, stores built over [3,50), output written from block 0 -/
example : summaryIs (pipeline (req0 mods0) cfg0) [[[nA], [nS]], [[nC]]] (some (3, 50)) (some (0, 50)) 50 = true := by
  decide +kernel

/-- absent kind (F10's shape): rejected by validation -/
example : (pipelineStaged (req0 [⟨nA, none, 0, [some (.source nT)], 0, none⟩,
    ⟨nC, some .map, 0, [some (.map nA)], 0, none⟩]) cfg0).1 = .validate ∧
    (pipeline (req0 [⟨nA, none, 0, [some (.source nT)], 0, none⟩,
    ⟨nC, some .map, 0, [some (.map nA)], 0, none⟩]) cfg0).isError = true := by decide +kernel

/-- absent input oneof (F12's shape) -/
example : (pipelineStaged (req0 [⟨nC, some .map, 0, [none], 0, none⟩]) cfg0).1 = .validate ∧
    (pipeline (req0 [⟨nC, some .map, 0, [none], 0, none⟩]) cfg0).isError = true := by decide +kernel

/-- dangling map reference -/
example : (pipeline (req0 [⟨nC, some .map, 0, [some (.map nA)], 0, none⟩]) cfg0).isError = true := by decide +kernel

/-- duplicate names -/
example : (pipeline (req0 [⟨nC, some .map, 0, [some (.source nT)], 0, none⟩,
    ⟨nC, some .map, 0, [some (.source nT)], 0, none⟩]) cfg0).isError = true := by decide +kernel

/-- a 2-cycle a ⇄ c: rejected by validateModuleGraph ("modules graph has a cycle") -/
example : (pipelineStaged (req0 [⟨nA, some .map, 0, [some (.map nC)], 0, none⟩,
    ⟨nC, some .map, 0, [some (.map nA)], 0, none⟩]) cfg0).1 = .validate ∧
    (pipeline (req0 [⟨nA, some .map, 0, [some (.map nC)], 0, none⟩,
    ⟨nC, some .map, 0, [some (.map nA)], 0, none⟩]) cfg0).isError = true := by decide +kernel

/-- a self reference -/
example : (pipeline (req0 [⟨nC, some .map, 0, [some (.map nC)], 0, none⟩]) cfg0).isError = true := by decide +kernel

/-- binary index out of range (F11's shape): passes validation, rejected while hashing -/
example : (pipelineStaged (req0 [⟨nC, some .map, 7, [some (.source nT)], 0, none⟩]) cfg0).1 = .graph ∧
    (pipeline (req0 [⟨nC, some .map, 7, [some (.source nT)], 0, none⟩]) cfg0).isError = true := by decide +kernel

/-- an unparsable cursor: rejected by BuildRequestDetails -/
example : (pipelineStaged { req0 mods0 with startCursor := .invalid } cfg0).1 = .details ∧
    (pipeline { req0 mods0 with startCursor := .invalid } cfg0).isError = true := by decide +kernel

/-- start block = stop block -/
example : (pipelineStaged { req0 mods0 with stopBlockNum := 5 } cfg0).1 = .checks ∧
    (pipeline { req0 mods0 with stopBlockNum := 5 } cfg0).isError = true := by decide +kernel

/-- a cursor on block 1 of a chain whose first streamable block is 5: rejected by the planner -/
example : (pipelineStaged { req0 [⟨nC, some .map, 0, [some (.source nT)], 0, none⟩] with startCursor := .valid 1 1 1 }
      { cfg0 with firstStreamable := 5 }).1 = .plan ∧
    (pipeline { req0 [⟨nC, some .map, 0, [some (.source nT)], 0, none⟩] with startCursor := .valid 1 1 1 }
      { cfg0 with firstStreamable := 5 }).isError = true := by
  decide +kernel

/-- The hypothesis of `no_panic` is needed: with segment size 0 (a server flag) the hand-off
computation divides by zero. -/
theorem segment_size_zero_panics :
    (pipelineStaged (req0 mods0) { cfg0 with segmentSize := 0 }).1 = .details ∧
    (pipeline (req0 mods0) { cfg0 with segmentSize := 0 }).isPanic = true := by decide +kernel

/-- The panic branches of the model are live — they are excluded by the validated invariant, not by the
shape of the model: `computeStages` on a module with an absent input oneof panics (F12 before the fix),
`ModuleKind()` of a module without kind panics (F10). -/
example : (computeStages [⟨nC, some .map, 0, [none], 0, none⟩] []).isPanic = true := by decide +kernel
example : (⟨nC, none, 0, [], 0, none⟩ : Module).moduleKind.isPanic = true := by decide +kernel

/-- … and so is the hang branch: with two modules of the same name the staging loop never reaches
`len(seen) == len(mods)` (duplicate names are rejected by validation). -/
example : (computeStages [⟨nC, some .map, 0, [some (.source nT)], 0, none⟩,
    ⟨nC, some .map, 0, [some (.source nT)], 0, none⟩] []).isHang = true := by decide +kernel

/-- … and a dependency outside the set of used modules is never placed (the ancestor closure is what
excludes it). -/
example : (computeStages [⟨nC, some .map, 0, [some (.map nA)], 0, none⟩] []).isHang = true := by decide +kernel

/-- The witness for 84ed6b1e: one map module reading the block source, stage 1 (the graph has the
single stage 0).  Validation and graph construction accept it; the stage check rejects it with an
error … -/
example : (pipelineTier2Staged ⟨some ⟨[⟨nA, some .map, 0, [some (.source nT)], 0, none⟩], [⟨typeRustV1, 0⟩]⟩,
      nA, nT, 1, 10, 0, 0, 0, true, true, true⟩).1 = .upto ∧
    (pipelineTier2 ⟨some ⟨[⟨nA, some .map, 0, [some (.source nT)], 0, none⟩], [⟨typeRustV1, 0⟩]⟩,
      nA, nT, 1, 10, 0, 0, 0, true, true, true⟩).isError = true := by decide +kernel

/-- … with stage 0 the same request is accepted … -/
example : (pipelineTier2 ⟨some ⟨[⟨nA, some .map, 0, [some (.source nT)], 0, none⟩], [⟨typeRustV1, 0⟩]⟩,
      nA, nT, 0, 10, 0, 0, 0, true, true, true⟩).isOk = true := by decide +kernel

/-- … and the indexing itself panics when it is not guarded (the code before 84ed6b1e). -/
example : (usedModulesUpToStage ⟨[], [[[⟨nA, some .map, 0, [], 0, none⟩]]], 0, none,
    ⟨nA, some .map, 0, [], 0, none⟩, []⟩ 1).isPanic = true := by decide +kernel

end Examples

end SV.C17
