import Lemmas.WireItemsSpec
/-!
# C18 — Hand-written cache-file codecs are wire-compatible with their protobuf schemas

Lemmas about the model (`Model/Wire.lean`) are in `Lemmas/Wire.lean`, `Lemmas/WireItems.lean`,
`Lemmas/WireItemsSpec.lean`.

Cast: `marshalVT`/`unmarshalVT` = `VTproto` (the default store marshaller: generated `MarshalVT`, hand-copied
`unmarshalVT` with the byte counter); `marshalPF` = `ProtoingFast.Marshal`; `specEncStoreData`/`specDecodeStoreData`
= `proto.Marshal`/`proto.Unmarshal` of `pbstore.StoreData` (= marshaller `Proto`, and `ProtoingFast.Unmarshal`);
`marshalBinary`/`unmarshalBinary` = `Binary`; `marshalFast`/`unmarshalFast` = `pboutput.Map.MarshalFast` /
`UnmarshalFast` (the execout file), `unmarshalArrayVT` = `Array.UnmarshalVTNoAlloc`, `specEncArray`/`specDecodeArray`
= `proto.Marshal`/`proto.Unmarshal` of `pboutput.Array`.

Hypotheses that recur, and where they come from:

* `(kv.map (·.1)).Nodup` — a Go map has distinct keys; the list order is the arbitrary order in which the map
  iteration emits the entries: every theorem holds for every order.
* `bs.length < 2^63` — the encoded message is a Go `[]byte` (`len` is an `int`).
* `Item.WellTyped` — `BlockNum` is a `uint64`, `Seconds` an `int64`, `Nanos` an `int32`.
* `ValidUTF8 k` (decidable) on store keys, delete prefixes, block ids and cursors **only in the theorems that
  involve the standard protobuf codec**: these fields are declared `string`, and `proto.Marshal`/`Unmarshal`
  refuse a `string` that is not UTF-8.  Store keys are raw bytes handed over by the WASM module, so this
  hypothesis is *not* guaranteed by the code: that is the known finding F18 (DESIGN §9), whose witness is
  kernel-checked below (`f18_witness`).  The same-codec round trips (`VTproto`, `Binary`, `MarshalFast`/
  `UnmarshalFast`) are proved for arbitrary bytes.  Block ids come out of a proto3 `string` field (`Clock.id`).
-/
namespace SV.C18
open SV.Wire

/-- `utf8.Valid`, as a decidable proposition -/
def ValidUTF8 (b : Bytes) : Prop := validUTF8 b = true
instance (b : Bytes) : Decidable (ValidUTF8 b) := inferInstanceAs (Decidable (validUTF8 b = true))

/-! ## varints -/

/-- **varint round trip**, for all `n < 2^64` and every decoder in play: the inlined loop of the vtproto code,
`protowire.ConsumeVarint`, `binary.Uvarint` all read `PutUvarint n` back and leave the rest untouched. -/
theorem varint_roundtrip (n : Nat) (h : n < 2 ^ 64) (rest : Bytes) :
    vtVarint (encVarint n ++ rest) = .ok (n, rest) ∧
    pwVarint (encVarint n ++ rest) = .ok (n, rest) ∧
    uvarint (encVarint n ++ rest) = .ok n rest :=
  ⟨vtVarint_enc h rest, pwVarint_enc h rest, uvarint_enc h rest⟩

/-- the two size functions (`sov` = `(bits.Len64(x|1)+6)/7`, `uvarintByteCount`) are the number of bytes written -/
theorem varint_sizes (n : Nat) : sov n = (encVarint n).length ∧ uvarintByteCount n = (encVarint n).length :=
  ⟨sov_eq n, uvarintByteCount_eq n⟩

/-! ## store snapshots (`StoreData`) -/

/-- The pre-computed buffer sizes (`SizeVT`, `kvByteSize + listByteSize`, the Binary size loop) are exact, so the
marshallers never fail or leave garbage; and the three protobuf-format encoders write the same bytes for the same
entry order. -/
theorem store_encoders_total_and_agree (kv : KV) (dp : List Bytes) :
    marshalVT kv dp = .ok (vtEncStoreData kv dp) ∧
    marshalPF kv dp = .ok (vtEncStoreData kv dp) ∧
    marshalBinary kv = .ok (binEnc kv) ∧
    (specEncStoreData kv dp = .ok (vtEncStoreData kv dp) ∨ specEncStoreData kv dp = .invalidUTF8) := by
  refine ⟨marshalVT_eq kv dp, marshalPF_eq kv dp, marshalBinary_eq kv, ?_⟩
  unfold specEncStoreData
  split
  · left; rw [specEncStoreDataBytes_eq]
  · right; rfl

/-- the standard encoder accepts exactly the contents whose keys and prefixes are UTF-8 -/
theorem spec_enc_ok_iff (kv : KV) (dp : List Bytes) :
    (∃ bs, specEncStoreData kv dp = .ok bs) ↔ ((∀ e ∈ kv, ValidUTF8 e.1) ∧ ∀ p ∈ dp, ValidUTF8 p) := by
  unfold specEncStoreData ValidUTF8
  constructor
  · rintro ⟨bs, h⟩
    split at h
    · rename_i hv
      simp only [Bool.and_eq_true, List.all_eq_true] at hv
      exact hv
    · exact EncResult.noConfusion h
  · intro hv
    have : (kv.all (fun e => validUTF8 e.1) && dp.all validUTF8) = true := by
      simp only [Bool.and_eq_true, List.all_eq_true]; exact hv
    rw [if_pos this]
    exact ⟨_, rfl⟩

/-- **Fast decoder ∘ fast encoder = identity, and the reported size is exact** (`VTproto` reads back what it
wrote; arbitrary binary keys and values, any entry order): keys, values, deleted prefixes, and
`dataSize = Σ (len key + len value)`. -/
theorem fast_dec_of_fast_enc (kv : KV) (dp : List Bytes) (bs : Bytes)
    (hnd : (kv.map (·.1)).Nodup) (henc : marshalVT kv dp = .ok bs) (hlen : bs.length < 2 ^ 63) :
    unmarshalVT bs = .ok (⟨kv, dp⟩, kvSize kv) := by
  obtain rfl := EncResult.ok_eq (marshalVT_eq kv dp) henc
  exact unmarshalVT_enc kv dp hnd hlen

/-- the fast decoder also reads `ProtoingFast`'s bytes (same size) -/
theorem fast_dec_of_protoingfast_enc (kv : KV) (dp : List Bytes) (bs : Bytes)
    (hnd : (kv.map (·.1)).Nodup) (henc : marshalPF kv dp = .ok bs) (hlen : bs.length < 2 ^ 63) :
    unmarshalVT bs = .ok (⟨kv, dp⟩, kvSize kv) := by
  obtain rfl := EncResult.ok_eq (marshalPF_eq kv dp) henc
  exact unmarshalVT_enc kv dp hnd hlen

/-- **The standard decoder reads the fast encoder's bytes** (both fast encoders), to the same content — for
UTF-8 keys and prefixes (F18 otherwise). -/
theorem spec_dec_of_fast_enc (kv : KV) (dp : List Bytes) (bs : Bytes)
    (hnd : (kv.map (·.1)).Nodup) (henc : marshalVT kv dp = .ok bs ∨ marshalPF kv dp = .ok bs)
    (hlen : bs.length < 2 ^ 63)
    (hk : ∀ e ∈ kv, ValidUTF8 e.1) (hp : ∀ p ∈ dp, ValidUTF8 p) :
    specDecodeStoreData bs = .ok ⟨kv, dp⟩ := by
  obtain rfl : bs = vtEncStoreData kv dp :=
    henc.elim (EncResult.ok_eq (marshalVT_eq kv dp)) (EncResult.ok_eq (marshalPF_eq kv dp))
  exact specDecode_enc kv dp hnd (Nat.lt_trans hlen two63_lt_two64) hk hp

/-- **The fast decoder reads the standard encoder's bytes**, with the exact size.  (The standard encoder only
produces bytes for UTF-8 keys, `spec_enc_ok_iff`.) -/
theorem fast_dec_of_spec_enc (kv : KV) (dp : List Bytes) (bs : Bytes)
    (hnd : (kv.map (·.1)).Nodup) (henc : specEncStoreData kv dp = .ok bs) (hlen : bs.length < 2 ^ 63) :
    unmarshalVT bs = .ok (⟨kv, dp⟩, kvSize kv) := by
  obtain rfl := specEncStoreData_ok henc
  exact unmarshalVT_enc kv dp hnd hlen

/-- `Proto` and `ProtoingFast` read back what they wrote — for UTF-8 keys and prefixes (F18 otherwise: `Proto`
cannot even write, `ProtoingFast` writes but cannot read). -/
theorem standard_marshallers_roundtrip (kv : KV) (dp : List Bytes) (bs : Bytes)
    (hnd : (kv.map (·.1)).Nodup)
    (henc : specEncStoreData kv dp = .ok bs ∨ marshalPF kv dp = .ok bs) (hlen : bs.length < 2 ^ 63)
    (hk : ∀ e ∈ kv, ValidUTF8 e.1) (hp : ∀ p ∈ dp, ValidUTF8 p) :
    specDecodeStoreData bs = .ok ⟨kv, dp⟩ := by
  obtain rfl : bs = vtEncStoreData kv dp := henc.elim specEncStoreData_ok (EncResult.ok_eq (marshalPF_eq kv dp))
  exact specDecode_enc kv dp hnd (Nat.lt_trans hlen two63_lt_two64) hk hp

/-- **Binary marshaller round trip** (arbitrary binary keys and values; the format carries no delete prefixes). -/
theorem binary_roundtrip (kv : KV) (bs : Bytes) (hnd : (kv.map (·.1)).Nodup)
    (henc : marshalBinary kv = .ok bs) (hlen : bs.length < 2 ^ 63) :
    unmarshalBinary bs = .ok kv := by
  obtain rfl := EncResult.ok_eq (marshalBinary_eq kv) henc
  exact unmarshalBinary_enc kv hnd (Nat.lt_trans hlen two63_lt_two64)

/-! ## cached outputs (`Map` / `Array` / `Item` with nested `Timestamp`) -/

/-- `Array.MarshalVT` never fails (`SizeVT` is exact, including `proto.Size` of the nested Timestamp) and the
standard encoder writes the same bytes (zero values omitted, a present Timestamp always written). -/
theorem array_encoders_total_and_agree (items : List Item) :
    marshalArrayVT items = .ok (vtEncArray items) ∧
    (specEncArray items = .ok (vtEncArray items) ∨ specEncArray items = .invalidUTF8) := by
  refine ⟨marshalArrayVT_eq items, ?_⟩
  unfold specEncArray
  split
  · left; rw [specEncArrayBytes_eq]
  · right; rfl

/-- **`UnmarshalFast ∘ MarshalFast = id`** on the output-cache map (keyed by block id, as `File.SetItem` builds
it): block number, id, payload, timestamp (absent / zero / any int64, int32), cursor; arbitrary bytes in every
field, empty fields, any iteration order. -/
theorem fast_dec_of_fast_enc_items (m : ItemMap) (bs : Bytes)
    (hnd : (m.map (·.1)).Nodup) (hkey : ∀ e ∈ m, e.2.blockId = e.1) (hwt : ∀ e ∈ m, e.2.WellTyped)
    (henc : marshalFast m = .ok bs) (hlen : bs.length < 2 ^ 63) :
    unmarshalFast bs = .ok m := by
  obtain rfl := EncResult.ok_eq (marshalArrayVT_eq _) henc
  exact unmarshalFast_enc m hnd hkey hwt hlen

/-- **The standard decoder reads `MarshalFast`'s bytes** as the `Array` of the same items, in the same order. -/
theorem spec_dec_of_fast_enc_items (m : ItemMap) (bs : Bytes)
    (hwt : ∀ e ∈ m, e.2.WellTyped)
    (hutf : ∀ e ∈ m, ValidUTF8 e.2.blockId ∧ ValidUTF8 e.2.cursor)
    (henc : marshalFast m = .ok bs) (hlen : bs.length < 2 ^ 63) :
    specDecodeArray bs = .ok (m.map (·.2)) := by
  obtain rfl := EncResult.ok_eq (marshalArrayVT_eq _) henc
  exact specDecodeArray_enc _ (List.forall_mem_map.2 fun e he => ⟨hwt e he, (hutf e he).1, (hutf e he).2⟩)
    (Nat.lt_trans hlen two63_lt_two64)

/-- **The fast decoder reads the standard encoder's bytes**: `Array.UnmarshalVTNoAlloc`, and hence
`Map.UnmarshalFast` for a map keyed by block id. -/
theorem fast_dec_of_spec_enc_items (m : ItemMap) (bs : Bytes)
    (hnd : (m.map (·.1)).Nodup) (hkey : ∀ e ∈ m, e.2.blockId = e.1) (hwt : ∀ e ∈ m, e.2.WellTyped)
    (henc : specEncArray (m.map (·.2)) = .ok bs) (hlen : bs.length < 2 ^ 63) :
    unmarshalArrayVT bs = .ok (m.map (·.2)) ∧ unmarshalFast bs = .ok m := by
  obtain rfl := specEncArray_ok henc
  exact ⟨unmarshalArrayVT_enc _ (List.forall_mem_map.2 hwt) hlen, unmarshalFast_enc m hnd hkey hwt hlen⟩

/-! ## F18 — the excluded point, kernel-checked

Key `"k\xff\xfe"` (not UTF-8), value `"v"`: `VTproto` writes 10 bytes and reads them back (size 4), the
standard decoder rejects the very same bytes, and the standard encoder refuses the content. -/
theorem f18_witness :
    marshalVT [([0x6b, 0xff, 0xfe], [0x76])] [] = .ok [0x0a, 0x08, 0x0a, 0x03, 0x6b, 0xff, 0xfe, 0x12, 0x01, 0x76] ∧
    unmarshalVT [0x0a, 0x08, 0x0a, 0x03, 0x6b, 0xff, 0xfe, 0x12, 0x01, 0x76]
      = .ok (⟨[([0x6b, 0xff, 0xfe], [0x76])], []⟩, 4) ∧
    specDecodeStoreData [0x0a, 0x08, 0x0a, 0x03, 0x6b, 0xff, 0xfe, 0x12, 0x01, 0x76] = .error .utf8 ∧
    specEncStoreData [([0x6b, 0xff, 0xfe], [0x76])] [] = .invalidUTF8 ∧
    ¬ ValidUTF8 [0x6b, 0xff, 0xfe] := by
  exact ⟨by decide +kernel, rfl, rfl, rfl, by decide +kernel⟩

/-! ## outside the property: streams that no encoder produces

DESIGN §6 lists a stretch goal `fast_eq_spec_on_valid : specDecode bs = ok d → unmarshalVT bs ≈ ok d` for
arbitrary well-formed bytes.  It is **not** a theorem of the code as it is: the hand-copied decoders and the
standard decoder differ on well-formed streams that none of the encoders emits (the correspondence run shows the
real decoders behave exactly like the model here).  Kernel-checked: -/

/-- a known field with an unexpected wire type: the standard decoder skips it, the fast decoder fails -/
example : specDecodeStoreData [0x08, 0x01] = .ok {} ∧ unmarshalVT [0x08, 0x01] = .error .wrongWireType :=
  ⟨rfl, rfl⟩

/-- a repeated key: same content, but the fast decoder's running size counts both occurrences -/
example :
    specDecodeStoreData [0x0a, 0x06, 0x0a, 0x01, 0x6b, 0x12, 0x01, 1, 0x0a, 0x06, 0x0a, 0x01, 0x6b, 0x12, 0x01, 2]
      = .ok ⟨[([0x6b], [2])], []⟩ ∧
    unmarshalVT [0x0a, 0x06, 0x0a, 0x01, 0x6b, 0x12, 0x01, 1, 0x0a, 0x06, 0x0a, 0x01, 0x6b, 0x12, 0x01, 2]
      = .ok (⟨[([0x6b], [2])], []⟩, 4) := ⟨rfl, rfl⟩

/-- a Timestamp field occurring twice: the standard decoder merges (7 s, 9 ns), the fast decoder resets (0 s, 9 ns) -/
example :
    specDecodeArray [0x0a, 0x08, 0x22, 0x02, 0x08, 0x07, 0x22, 0x02, 0x10, 0x09]
      = .ok [⟨0, [], [], some ⟨7, 9⟩, []⟩] ∧
    unmarshalArrayVT [0x0a, 0x08, 0x22, 0x02, 0x08, 0x07, 0x22, 0x02, 0x10, 0x09]
      = .ok [⟨0, [], [], some ⟨0, 9⟩, []⟩] := ⟨rfl, rfl⟩

/-! ## non-vacuity: the hypotheses are met by concrete, non-trivial instances -/

/-- a store content with a multi-byte UTF-8 key (`"é"`), an empty value, the empty key and a prefix: all
hypotheses of the cross-codec theorems hold -/
example :
    let kv : KV := [([0xc3, 0xa9], [1, 2]), ([0x61], []), ([], [9])]
    let dp : List Bytes := [[0x70, 0x3a]]
    (kv.map (·.1)).Nodup ∧ (∀ e ∈ kv, ValidUTF8 e.1) ∧ (∀ p ∈ dp, ValidUTF8 p) ∧
    (vtEncStoreData kv dp).length < 2 ^ 63 := by
  decide +kernel

/-- the bytes of that content, and both decoders on them (evaluated by the kernel) -/
example :
    vtEncStoreData [([0xc3, 0xa9], [1, 2]), ([], [9])] [[0x70]]
      = [0x0a, 0x08, 0x0a, 0x02, 0xc3, 0xa9, 0x12, 0x02, 1, 2, 0x0a, 0x05, 0x0a, 0x00, 0x12, 0x01, 9, 0x12, 0x01, 0x70] := by
  decide +kernel
example :
    unmarshalVT [0x0a, 0x08, 0x0a, 0x02, 0xc3, 0xa9, 0x12, 0x02, 1, 2, 0x0a, 0x05, 0x0a, 0x00, 0x12, 0x01, 9, 0x12, 0x01, 0x70]
      = .ok (⟨[([0xc3, 0xa9], [1, 2]), ([], [9])], [[0x70]]⟩, 5) := rfl
example :
    specDecodeStoreData [0x0a, 0x08, 0x0a, 0x02, 0xc3, 0xa9, 0x12, 0x02, 1, 2, 0x0a, 0x05, 0x0a, 0x00, 0x12, 0x01, 9, 0x12, 0x01, 0x70]
      = .ok ⟨[([0xc3, 0xa9], [1, 2]), ([], [9])], [[0x70]]⟩ := rfl

/-- duplicate keys in a stream (never produced by an encoder): content keeps the last value, the running size
counts both — why the theorems speak about encoder output with distinct keys -/
example :
    unmarshalVT [0x0a, 0x06, 0x0a, 0x01, 0x6b, 0x12, 0x01, 1, 0x0a, 0x06, 0x0a, 0x01, 0x6b, 0x12, 0x01, 2]
      = .ok (⟨[([0x6b], [2])], []⟩, 4) := rfl

/-- an output-cache item with a large block number, a negative-nanos timestamp and an empty payload is well
typed -/
example : (⟨2 ^ 63, [0x61, 0x62], [], some ⟨1700000000, 4294967295⟩, []⟩ : Item).WellTyped := by
  refine ⟨by decide, ?_⟩
  intro x hx
  injection hx with hx
  subst hx
  exact ⟨by decide, by decide⟩

/-- two small items (the second with an empty timestamp message): both decoders on their bytes -/
example :
    unmarshalFast [0x0a, 0x0a, 0x08, 0x05, 0x12, 0x02, 0x61, 0x62, 0x22, 0x02, 0x08, 0x07, 0x0a, 0x02, 0x22, 0x00]
      = .ok [([0x61, 0x62], ⟨5, [0x61, 0x62], [], some ⟨7, 0⟩, []⟩), ([], ⟨0, [], [], some ⟨0, 0⟩, []⟩)] := rfl
example :
    specDecodeArray [0x0a, 0x0a, 0x08, 0x05, 0x12, 0x02, 0x61, 0x62, 0x22, 0x02, 0x08, 0x07, 0x0a, 0x02, 0x22, 0x00]
      = .ok [⟨5, [0x61, 0x62], [], some ⟨7, 0⟩, []⟩, ⟨0, [], [], some ⟨0, 0⟩, []⟩] := rfl

/-- the Binary format on a two-entry map -/
example : unmarshalBinary [0x02, 0x01, 0x6b, 0x01, 0x76, 0x00, 0x00] = .ok [([0x6b], [0x76]), ([], [])] := rfl

end SV.C18
